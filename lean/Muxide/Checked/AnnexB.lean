import Muxide.Checked.Core
import Muxide.Lemmas.AnnexB
import Muxide.Lemmas.ParamSets
/- Muxide.Checked.AnnexB — the checked (index-walking) models of `find_start_code`, `AnnexBNalIter`,
   `annexb_to_avcc`, `extract_avc_config`, `is_h264_keyframe`, each proved to return `.ok` of the structural model's result. -/
namespace Muxide.Checked
open Muxide Muxide.Spec

/-- first `if` of the loop body of `find_start_code`:
    `i + 4 <= data.len() && data[i] == 0 && data[i+1] == 0 && data[i+2] == 0 && data[i+3] == 1` -/
def test4 (d : Bytes) (i : Nat) : M Bool :=
  andThen (.ok (decide (i + 4 ≤ d.length)))
    (andThen (eqAt d i 0) (andThen (eqAt d (i + 1) 0) (andThen (eqAt d (i + 2) 0) (eqAt d (i + 3) 1))))

/-- second `if`: `data[i] == 0 && data[i+1] == 0 && data[i+2] == 1` -/
def test3 (d : Bytes) (i : Nat) : M Bool :=
  andThen (eqAt d i 0) (andThen (eqAt d (i + 1) 0) (eqAt d (i + 2) 1))

/-- the `while i + 3 <= data.len()` loop; `fuel` only makes the recursion structural, running out of
    it while the loop condition still holds counts as a failure -/
def fscLoop (d : Bytes) : Nat → Nat → M (Option (Nat × Nat))
  | 0, i => if i + 3 ≤ d.length then .error () else .ok none
  | fuel + 1, i =>
    if i + 3 ≤ d.length then
      match test4 d i with
      | .error e => .error e
      | .ok true => .ok (some (i, 4))
      | .ok false =>
        match test3 d i with
        | .error e => .error e
        | .ok true => .ok (some (i, 3))
        | .ok false => fscLoop d fuel (i + 1)
    else .ok none

/-- `find_start_code(data, from)` -/
def findStartCode (d : Bytes) (from_ : Nat) : M (Option (Nat × Nat)) :=
  if d.length < 3 ∨ from_ ≥ d.length then .ok none else fscLoop d (d.length - from_) from_

theorem andThen_ok (a b : Bool) : andThen (.ok a) (.ok b) = .ok (a && b) := by cases a <;> rfl

theorem eqAt_decide {d : Bytes} {i : Nat} (h : i < d.length) (v : UInt8) :
    eqAt d i v = .ok (decide (d[i]? = some v)) := by
  simp only [eqAt_ok h, List.getElem?_eq_getElem h, Option.some.injEq, Bool.beq_eq_decide_eq]

theorem test3_ok (d : Bytes) (i : Nat) (h : i + 3 ≤ d.length) : test3 d i = .ok (decide (scLenAt d i = 3)) := by
  unfold test3
  rw [eqAt_decide (by omega), eqAt_decide (by omega), eqAt_decide (by omega), andThen_ok, andThen_ok]
  simp only [scLenAt_eq_three_iff, Bool.decide_and]

theorem test4_ok (d : Bytes) (i : Nat) (h : i + 3 ≤ d.length) : test4 d i = .ok (decide (scLenAt d i = 4)) := by
  unfold test4
  by_cases h4 : i + 4 ≤ d.length
  · rw [eqAt_decide (by omega), eqAt_decide (by omega), eqAt_decide (by omega), eqAt_decide (by omega),
      andThen_ok, andThen_ok, andThen_ok, andThen_ok]
    simp only [scLenAt_eq_four_iff, Bool.decide_and, h4, decide_true, Bool.true_and]
  · -- the length test fails first; and the fourth byte of a 4-byte start code would lie outside
    have : scLenAt d i ≠ 4 := fun h' => by
      have := ((scLenAt_eq_four_iff d i).mp h').2.2.2
      rw [List.getElem?_eq_none (by omega)] at this; cases this
    simp only [h4, this, decide_false]; rfl

theorem fscLoop_spec (d : Bytes) : ∀ (fuel i : Nat), d.length ≤ i + fuel → fscLoop d fuel i = .ok (firstSC d i) := by
  intro fuel
  induction fuel with
  | zero => intro i hi; rw [fscLoop, if_neg (by omega), firstSC_short (by omega)]
  | succ fuel ih =>
    intro i hi
    unfold fscLoop
    by_cases h3 : i + 3 ≤ d.length
    · rw [if_pos h3, test4_ok d i h3, test3_ok d i h3, firstSC_step (by omega)]
      rcases scLenAt_cases d i with c | c | c <;> simp only [c]
      · exact ih _ (by omega)
      · rfl
      · rfl
    · rw [if_neg h3, firstSC_short (by omega)]

/-- `find_start_code` never indexes out of bounds, terminates within `len - from` iterations, and returns
    the least index at or after `from` at which a start code begins (4-byte form preferred) -/
theorem findStartCode_spec (d : Bytes) (from_ : Nat) : findStartCode d from_ = .ok (firstSC d from_) := by
  unfold findStartCode
  split
  · rw [firstSC_short (by omega)]
  · exact fscLoop_spec d _ _ (by omega)

/-- one `AnnexBNalIter::next`: the unit (a checked slice) and the new cursor -/
def nalIterNext (d : Bytes) (cursor : Nat) : M (Option (Bytes × Nat)) :=
  match findStartCode d cursor with
  | .error e => .error e
  | .ok none => .ok none
  | .ok (some (p, l)) =>
    match addU p l with
    | .error e => .error e
    | .ok start =>
      match findStartCode d start with
      | .error e => .error e
      | .ok r =>
        let stop := match r with | some (q, _) => q | none => d.length
        match slice d start stop with
        | .error e => .error e
        | .ok nal => .ok (some (nal, stop))

/-- the iterator driven to exhaustion (`for nal in AnnexBNalIter::new(data)`); running out of fuel is a failure -/
def collectNals (d : Bytes) : Nat → Nat → M (List Bytes)
  | 0, _ => .error ()
  | fuel + 1, c =>
    match nalIterNext d c with
    | .error e => .error e
    | .ok none => .ok []
    | .ok (some (nal, c')) =>
      match collectNals d fuel c' with
      | .error e => .error e
      | .ok ns => .ok (nal :: ns)

/-- one `next` of the iterator is one step of the specification's split -/
theorem nalIterNext_ok (d : Bytes) (hd : SliceLen d) (c : Nat) :
    nalIterNext d c = .ok (match firstSC d c with
      | none => none
      | some (p, l) => some ((d.drop (p + l)).take (unitEnd d (p + l) - (p + l)), unitEnd d (p + l))) := by
  unfold nalIterNext
  rw [findStartCode_spec]
  cases h1 : firstSC d c with
  | none => rfl
  | some pl =>
    obtain ⟨p, l⟩ := pl
    obtain ⟨_, b2, _⟩ := firstSC_bounds h1
    obtain ⟨s1, s2⟩ := unitEnd_bounds b2
    simp only [addU_ok (show p + l < 2 ^ 64 by unfold SliceLen at hd; omega), findStartCode_spec]
    show (match slice d (p + l) (unitEnd d (p + l)) with
      | .error e => (.error e : M _)
      | .ok nal => .ok (some (nal, unitEnd d (p + l)))) = _
    rw [slice_ok s1 s2, List.drop_take]

theorem collectNals_spec (d : Bytes) (hd : SliceLen d) : ∀ (fuel c : Nat), d.length - c < fuel →
    collectNals d fuel c = .ok (splitFrom d fuel c) := by
  intro fuel
  induction fuel with
  | zero => intro c h; omega
  | succ fuel ih =>
    intro c hf
    unfold collectNals splitFrom
    rw [nalIterNext_ok d hd]
    cases h1 : firstSC d c with
    | none => rfl
    | some pl =>
      obtain ⟨p, l⟩ := pl
      obtain ⟨b1, b2, b3⟩ := firstSC_bounds h1
      obtain ⟨s1, s2⟩ := unitEnd_bounds b2
      simp only
      -- the next search starts behind a start code of at least three bytes
      rw [ih _ (by omega)]; rfl

/-- `AnnexBNalIter` run to the end yields exactly the byte runs between start codes, slicing only inside
    the buffer, in at most `len + 1` calls of `next` -/
theorem collectNals_eq (d : Bytes) (hd : SliceLen d) :
    collectNals d (d.length + 1) 0 = .ok (splitAnnexB d) :=
  collectNals_spec d hd (d.length + 1) 0 (by omega)

/-- `for nal in AnnexBNalIter::new(data)` as the list of units (the Rust loops consume the iterator
    lazily and may stop early; a failure of the eager collection covers every lazy prefix) -/
def nalsC (d : Bytes) : M (List Bytes) := collectNals d (d.length + 1) 0

theorem nalsC_eq (d : Bytes) (hd : SliceLen d) : nalsC d = .ok (nals d) := by
  rw [nalsC, collectNals_eq d hd, nals_eq_splitAnnexB]

/-- `annexb_to_avcc` / `hevc_annexb_to_hvcc`: no indexing in the loop body; `len as u32` truncates -/
def toAvccC (d : Bytes) : M Bytes :=
  match nalsC d with
  | .error e => .error e
  | .ok ns =>
    let out := (ns.filter (· ≠ [])).flatMap fun n => u32be n.length ++ n
    .ok (if out = [] ∧ d ≠ [] then u32be d.length ++ d else out)

theorem toAvccC_eq (d : Bytes) (hd : SliceLen d) : toAvccC d = .ok (toAvcc d) := by
  unfold toAvccC toAvcc
  rw [nalsC_eq d hd]

/-- `nal[0] & 0x1f` behind the `nal.is_empty()` guard, then `assert_invariant!(nal_type <= 31)` -/
def h264NalTypeC (n : Bytes) : M Nat :=
  match getC n 0 with
  | .error e => .error e
  | .ok b => if b.toNat % 32 ≤ 31 then .ok (b.toNat % 32) else .error ()

theorem h264NalTypeC_eq (n : Bytes) (hn : n ≠ []) : h264NalTypeC n = .ok (h264NalType n) := by
  cases n with
  | nil => exact absurd rfl hn
  | cons b r =>
    have : b.toNat % 32 ≤ 31 := by omega
    simp [h264NalTypeC, getC, h264NalType, this]

/-- the update of (sps, pps) by one non-empty unit of type `t` -/
def avcPick (t : Nat) (n : Bytes) (s p : Option Bytes) : Option Bytes × Option Bytes :=
  if t = 7 ∧ s.isNone then (some n, p)
  else if t = 8 ∧ p.isNone then (s, some n)
  else (s, p)

/-- loop of `extract_avc_config` -/
def avcScanC : List Bytes → Option Bytes → Option Bytes → M (Option Bytes × Option Bytes)
  | [], s, p => .ok (s, p)
  | n :: ns, s, p =>
    if n = [] then avcScanC ns s p else
    match h264NalTypeC n with
    | .error e => .error e
    | .ok t =>
      let q := avcPick t n s p
      if q.1.isSome ∧ q.2.isSome then .ok q else avcScanC ns q.1 q.2

theorem avcScan_cons (n : Bytes) (ns : List Bytes) (s p : Option Bytes) (hn : n ≠ []) :
    avcScan (n :: ns) s p =
      (let q := avcPick (h264NalType n) n s p
       if q.1.isSome ∧ q.2.isSome then q else avcScan ns q.1 q.2) := by
  rw [avcScan, if_neg hn]; rfl

theorem avcScanC_eq (ns : List Bytes) (s p : Option Bytes) : avcScanC ns s p = .ok (avcScan ns s p) := by
  induction ns generalizing s p with
  | nil => rfl
  | cons n ns ih =>
    by_cases hn : n = []
    · rw [hn, avcScanC, avcScan, if_pos rfl, if_pos rfl]; exact ih s p
    · rw [avcScanC, if_neg hn, h264NalTypeC_eq n hn, avcScan_cons n ns s p hn]
      exact guard_ok fun _ => ih _ _

/-- `extract_avc_config`, including the INV-302 assertion that both parameter sets are non-empty -/
def extractAvcC (d : Bytes) : M (Option AvcConfig) :=
  if d = [] then .ok none else
  match nalsC d with
  | .error e => .error e
  | .ok ns =>
    match avcScanC ns none none with
    | .error e => .error e
    | .ok (some s, some p) => if s ≠ [] ∧ p ≠ [] then .ok (some ⟨s, p⟩) else .error ()
    | .ok _ => .ok none

theorem avcScan_nonempty (ns : List Bytes) (s p : Option Bytes)
    (hs : ∀ x, s = some x → x ≠ []) (hp : ∀ x, p = some x → x ≠ []) :
    (∀ x, (avcScan ns s p).1 = some x → x ≠ []) ∧ (∀ x, (avcScan ns s p).2 = some x → x ≠ []) := by
  rw [avcScan_eq]
  exact ⟨or_firstOfType_ne_nil hs, or_firstOfType_ne_nil hp⟩

theorem extractAvcC_eq (d : Bytes) (hd : SliceLen d) : extractAvcC d = .ok (extractAvc d) := by
  unfold extractAvcC extractAvc
  refine guard_ok fun _ => ?_
  rw [nalsC_eq d hd]
  simp only [avcScanC_eq]
  have hne := avcScan_nonempty (nals d) none none (by simp) (by simp)
  match avcScan (nals d) none none, hne with
  | (some s, some p), hne => exact if_pos ⟨hne.1 _ rfl, hne.2 _ rfl⟩
  | (none, _), _ | (some _, none), _ => rfl

/-- `is_h264_keyframe` -/
def isH264KeyframeC (d : Bytes) : M Bool :=
  match nalsC d with
  | .error e => .error e
  | .ok ns =>
    ns.foldr (fun n acc =>
      if n = [] then acc else
      match getC n 0 with
      | .error e => .error e
      | .ok b => if b.toNat % 32 = 5 then .ok true else acc) (.ok false)

theorem isH264KeyframeC_eq (d : Bytes) (hd : SliceLen d) : isH264KeyframeC d = .ok (isH264Keyframe d) := by
  unfold isH264KeyframeC isH264Keyframe
  rw [nalsC_eq d hd]
  dsimp only
  induction nals d with
  | nil => rfl
  | cons n ns ih =>
    rw [List.foldr_cons, ih, List.any_cons]
    cases n with
    | nil => simp
    | cons b r =>
      simp only [reduceCtorEq, if_false, getC, List.getElem?_cons_zero, h264NalType, List.headD_cons]
      by_cases h5 : b.toNat % 32 = 5 <;> simp [h5]

end Muxide.Checked
