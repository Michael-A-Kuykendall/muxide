import Muxide.Model.Basic
/-
  Muxide.Checked.Core — the vocabulary of the *checked* (index-walking) models used for C12.

  The structural models of Muxide.Model cannot panic by construction, so they say nothing about slice
  indexing.  The functions of Muxide.Checked.* mirror the Rust source at the level of its index and
  slice operations instead: `data[i]`, `&data[a..b]`, `a + b` on `usize`, `x as uN` each become an
  operation that *fails* (`.error ()`, the model of a panic) when Rust would panic — an out-of-range
  index, an inverted or overlong slice range, an overflowing addition in a build with overflow checks.
  The theorems of Props/C12Checked.lean then state `Checked.f x = .ok (Model.f x)` for every input:
  the Rust function never panics and computes what the structural model computes.
-/
namespace Muxide.Checked

/-- `Result` with a single failure value: the panic -/
abbrev M := Except Unit

/-- `usize::MAX + 1` on the 64-bit targets the crate is built for -/
def usizeLimit : Nat := 2 ^ 64

/-- slices are at most `isize::MAX` bytes long (guaranteed by Rust's allocation rules) -/
def SliceLen (d : Bytes) : Prop := d.length < 2 ^ 63

/-- `data[i]` -/
def getC (d : Bytes) (i : Nat) : M UInt8 :=
  match d[i]? with
  | some b => .ok b
  | none => .error ()

/-- `data[i] == v` -/
def eqAt (d : Bytes) (i : Nat) (v : UInt8) : M Bool :=
  match d[i]? with
  | some b => .ok (b == v)
  | none => .error ()

/-- Rust's short-circuit `a && b` on possibly panicking operands -/
def andThen (a : M Bool) (b : M Bool) : M Bool :=
  match a with
  | .ok true => b
  | r => r

/-- `&data[from..]` -/
def sliceFrom (d : Bytes) (i : Nat) : M Bytes := if i ≤ d.length then .ok (d.drop i) else .error ()

/-- `&data[..to]` -/
def sliceTo (d : Bytes) (j : Nat) : M Bytes := if j ≤ d.length then .ok (d.take j) else .error ()

/-- `&data[from..to]` -/
def slice (d : Bytes) (i j : Nat) : M Bytes :=
  if i ≤ j ∧ j ≤ d.length then .ok ((d.take j).drop i) else .error ()

/-- `a + b` on `usize` with overflow checks -/
def addU (a b : Nat) : M Nat := if a + b < usizeLimit then .ok (a + b) else .error ()

/-- `a - b` on `usize` with overflow checks -/
def subU (a b : Nat) : M Nat := if b ≤ a then .ok (a - b) else .error ()

theorem eqAt_ok {d : Bytes} {i : Nat} (h : i < d.length) (v : UInt8) : eqAt d i v = .ok (d[i] == v) := by
  simp [eqAt, List.getElem?_eq_getElem h]

theorem getC_ok {d : Bytes} {i : Nat} (h : i < d.length) : getC d i = .ok d[i] := by
  simp [getC, List.getElem?_eq_getElem h]

theorem addU_ok {a b : Nat} (h : a + b < 2 ^ 64) : addU a b = .ok (a + b) := by
  unfold addU usizeLimit; rw [if_pos h]

theorem subU_ok {a b : Nat} (h : b ≤ a) : subU a b = .ok (a - b) := by
  unfold subU; rw [if_pos h]

theorem sliceFrom_ok {d : Bytes} {i : Nat} (h : i ≤ d.length) : sliceFrom d i = .ok (d.drop i) := by
  unfold sliceFrom; rw [if_pos h]

theorem sliceTo_ok {d : Bytes} {j : Nat} (h : j ≤ d.length) : sliceTo d j = .ok (d.take j) := by
  unfold sliceTo; rw [if_pos h]

theorem slice_ok {d : Bytes} {i j : Nat} (h1 : i ≤ j) (h2 : j ≤ d.length) :
    slice d i j = .ok ((d.take j).drop i) := by
  unfold slice; rw [if_pos ⟨h1, h2⟩]

/-- an early return: the checked function and the model agree if they agree past the guard -/
theorem guard_ok {α : Type} {c : Prop} [Decidable c] {a k' : α} {k : M α} (h : ¬ c → k = .ok k') :
    (if c then .ok a else k) = .ok (if c then a else k') := by
  by_cases hc : c
  · rw [if_pos hc, if_pos hc]
  · rw [if_neg hc, if_neg hc, h hc]

end Muxide.Checked
