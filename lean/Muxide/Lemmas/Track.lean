import Muxide.Lemmas.Timing
import Muxide.Spec.Contract
/- Muxide.Lemmas.Track — the shape of a track's sample queue that C04's invariant records (`TrackOk`): kept by a
   push, and enough for the declared track duration to be the specification's `trackDuration`; a non-empty
   frame stays non-empty under payload conversion. -/
namespace Muxide
open Muxide.Spec

/-- older samples (newest first), below a newer decode time `t`: each carries as duration the
    distance to the next newer decode time, and decode times do not decrease -/
def Older : Nat → List Sample → Prop
  | _, [] => True
  | t, p :: rest => p.dur = some (t - p.dts) ∧ p.dts ≤ t ∧ Older p.dts rest

/-- shape of a track's sample vector (newest first) together with `prev_dts` and `last_delta` -/
def TrackOk (rev : List Sample) (prev ld : Option Nat) : Prop :=
  match rev with
  | [] => prev = none ∧ ld = none
  | s :: rest => prev = some s.dts ∧ s.dur = none ∧ Older s.dts rest ∧
      ld = rest.head?.map (fun p => s.dts - p.dts)

/-- telescoping: the durations of the older samples add up to the distance from the oldest decode time
    to `t` -/
theorem older_sum (t : Nat) (rest : List Sample) (h : Older t rest) :
    (rest.map (·.dur.getD 1)).sum = t - (rest.map (·.dts)).getLastD t ∧ (rest.map (·.dts)).getLastD t ≤ t := by
  induction rest generalizing t with
  | nil => simp
  | cons p rest ih =>
    obtain ⟨h1, h2, h3⟩ := h
    obtain ⟨i1, i2⟩ := ih p.dts h3
    rw [List.map_cons, List.sum_cons, i1, h1, List.map_cons, List.getLastD_cons, Option.getD_some]
    exact ⟨Nat.sub_add_sub_cancel h2 i2, Nat.le_trans i2 h2⟩

/-- the declared track duration the writer checks equals the specification's `trackDuration`
    of the decode times -/
theorem track_duration {rev : List Sample} {prev ld : Option Nat} (h : TrackOk rev prev ld) :
    (durationsOf rev.reverse ld).sum = trackDuration ((rev.map (·.dts)).reverse) := by
  cases rev with
  | nil => rfl
  | cons s rest =>
    obtain ⟨-, h2, h3, h4⟩ := h
    obtain ⟨o1, -⟩ := older_sum s.dts rest h3
    rw [List.reverse_cons, durationsOf_snoc, List.sum_append, List.map_reverse, List.sum_reverse, o1, h2, h4]
    unfold trackDuration
    rw [List.reverse_reverse, List.map_cons, List.headD_eq_head?_getD, List.head?_reverse, List.getLast?_cons,
      ← List.getLastD_eq_getLast?]
    cases rest <;> simp

theorem trackOk_push {rev : List Sample} {prev ld : Option Nat} (h : TrackOk rev prev ld) (s : Sample)
    (hs : s.dur = none) (hle : ∀ p, prev = some p → p ≤ s.dts) :
    TrackOk (s :: pushRev rev prev s.dts) (some s.dts) (pushLd prev ld s.dts) := by
  cases rev with
  | nil => obtain ⟨rfl, rfl⟩ := h; exact ⟨rfl, hs, trivial, rfl⟩
  | cons q rest =>
    obtain ⟨rfl, -, h3, -⟩ := h
    exact ⟨rfl, hs, ⟨rfl, hle _ rfl, h3⟩, rfl⟩

theorem trackOk_prev_none (rev : List Sample) (ld : Option Nat) (h : TrackOk rev none ld) : rev = [] := by
  cases rev with
  | nil => rfl
  | cons q rest => exact absurd h.1 (by simp)

theorem toAvcc_ne_nil (d : Bytes) (h : d ≠ []) : toAvcc d ≠ [] := by
  unfold toAvcc
  simp only []
  split
  · simp [u32be]
  · next hc => intro he; exact hc ⟨he, h⟩

theorem convertPayload_ne_nil (c : VCodec) (d : Bytes) (h : d ≠ []) : convertPayload c d ≠ [] := by
  cases c
  case h264 | h265 => exact toAvcc_ne_nil d h
  case av1 | vp9 => exact h

end Muxide
