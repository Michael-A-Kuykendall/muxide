import Muxide.Model.Api
import Muxide.Lemmas.Finalize
/-
  Muxide.Lemmas.Api — the calls of the writer and of the muxer in closed form.

  A frame-writing call is a chain of guards followed by one state update. The guards are named
  (`Writer.videoErr`, `Muxer.wvPre`, …), the update is named (`Writer.videoPush`, `Muxer.pushVideo`, …), and
  each call is proved equal to "guards, then update" once (`*_eq`, `*_answer`). What a property needs of a
  call it reads off that form: `*_cases` (refused without a trace, or accepted) and `*_eq_none` (what passing
  the guards means); nothing downstream unfolds a call. The finish calls are treated the same way
  (`Muxer.finishStats_eq` for an arbitrary sink).
-/
namespace Muxide

/-- a chain of guards `if c then some e else …` names no error iff every guard passes -/
theorem ite_some_eq_none {α} {c : Prop} [Decidable c] {a : α} {r : Option α} :
    (if c then some a else r) = none ↔ ¬ c ∧ r = none := by
  by_cases h : c <;> simp [h]

def missingCfgErr (c : VCodec) : WErr :=
  match c with
  | .av1 => .firstFrameMissingSequenceHeader
  | .vp9 => .firstFrameMissingVp9Config
  | _ => .firstFrameMissingSpsPps

def ctsBad (pts dts : Nat) : Prop := (pts : Int) - (dts : Int) > 2^31 - 1 ∨ (pts : Int) - (dts : Int) < -(2^31)
instance (pts dts : Nat) : Decidable (ctsBad pts dts) := by unfold ctsBad; infer_instance

/-- the error `write_video_sample_with_dts` reports, if any -/
def Writer.videoErr (w : Writer) (pts dts : Nat) (data : Bytes) (key : Bool) : Option WErr :=
  if w.finalized then some .alreadyFinalized else
  match w.vPrev with
  | some prev =>
    if dts ≤ prev then some .nonIncreasingTimestamp else
    if dts - prev > u32Max then some .durationOverflow else
    if (convertPayload w.codec data).length > u32Max then some .durationOverflow else
    if ctsBad pts dts then some .durationOverflow else none
  | none =>
    if ¬ key then some .firstFrameMustBeKeyframe else
    match extractConfig w.codec data with
    | .none => some (missingCfgErr w.codec)
    | .some _ =>
      if (convertPayload w.codec data).length > u32Max then some .durationOverflow else
      if ctsBad pts dts then some .durationOverflow else none

/-- the state after an accepted video sample -/
def Writer.videoPush (w : Writer) (pts dts : Nat) (data : Bytes) (key : Bool) : Writer :=
  let s : Sample := ⟨pts, dts, convertPayload w.codec data, key, none⟩
  match w.vPrev with
  | some prev =>
    { w with vsRev := s :: setLastDur w.vsRev (dts - prev), vLastDelta := some (dts - prev), vPrev := some dts }
  | none =>
    match extractConfig w.codec data with
    | .some c => { w with vConfig := some c, vsRev := s :: w.vsRev, vPrev := some dts }
    | .none => { w with vsRev := s :: w.vsRev, vPrev := some dts }

theorem Writer.writeVideo_eq (w : Writer) (pts dts : Nat) (d : Bytes) (k : Bool) :
    w.writeVideo pts dts d k =
      match w.videoErr pts dts d k with
      | some e => (w, .err e)
      | none => (w.videoPush pts dts d k, .ok) := by
  unfold Writer.writeVideo Writer.videoErr Writer.videoPush
  by_cases hf : w.finalized = true
  · rw [if_pos hf, if_pos hf]
  rw [if_neg hf, if_neg hf]
  -- the two guards that end either branch, for any accepted state `acc` (the model spells `ctsBad` out)
  have tail : ∀ acc : Writer,
      (if (convertPayload w.codec d).length > u32Max then (w, WRes.err .durationOverflow) else
       if (pts : Int) - (dts : Int) > 2^31 - 1 ∨ (pts : Int) - (dts : Int) < -(2^31) then (w, .err .durationOverflow)
       else (acc, .ok)) =
      match (if (convertPayload w.codec d).length > u32Max then some WErr.durationOverflow else
             if ctsBad pts dts then some .durationOverflow else none) with
      | some e => (w, .err e)
      | none => (acc, .ok) := fun acc => by
    by_cases h3 : (convertPayload w.codec d).length > u32Max
    · rw [if_pos h3, if_pos h3]
    rw [if_neg h3, if_neg h3]
    by_cases h4 : ctsBad pts dts
    · rw [if_pos h4]; exact if_pos h4
    · rw [if_neg h4]; exact if_neg h4
  cases w.vPrev with
  | some prev =>
    dsimp only
    by_cases h1 : dts ≤ prev
    · rw [if_pos h1, if_pos h1]
    rw [if_neg h1, if_neg h1]
    by_cases h2 : dts - prev > u32Max
    · rw [if_pos h2, if_pos h2]
    rw [if_neg h2, if_neg h2]
    exact tail _
  | none =>
    dsimp only
    cases k with
    | false => rfl
    | true =>
      cases extractConfig w.codec d with
      | none => cases w.codec <;> rfl
      | some c => exact tail _

theorem Writer.videoErr_eq_none {w : Writer} {pts dts : Nat} {d : Bytes} {k : Bool} :
    w.videoErr pts dts d k = none ↔
      w.finalized = false ∧
      (match w.vPrev with
       | some p => p < dts ∧ dts - p ≤ u32Max
       | none => k = true ∧ ∃ c, extractConfig w.codec d = .some c) ∧
      (convertPayload w.codec d).length ≤ u32Max ∧ ¬ ctsBad pts dts := by
  unfold Writer.videoErr
  cases w.vPrev with
  | some p => simp only [ite_some_eq_none, Bool.not_eq_true, Nat.not_le, Nat.not_lt, and_true, and_assoc]
  | none => cases extractConfig w.codec d <;> simp [ite_some_eq_none]

/-- payload conversion of `write_audio_sample` -/
def audioPayload (c : ACodec) (data : Bytes) : Except WErr Bytes :=
  match c with
  | .aac _ => match adtsToRaw data with
              | .ok r => .ok r
              | .error k => .error (.invalidAdts k)
  | .opus => if isValidOpus data then .ok data else .error .invalidOpusPacket
  | .none => .error .audioNotEnabled

/-- the error `write_audio_sample` reports, if any -/
def Writer.audioErr (w : Writer) (pts : Nat) (data : Bytes) : Option WErr :=
  if w.finalized then some .alreadyFinalized else
  match w.audio with
  | none => some .audioNotEnabled
  | some tr =>
    match (match w.aPrev with
      | some prev => if pts < prev then some WErr.nonIncreasingTimestamp else
                     if pts - prev > u32Max then some .durationOverflow else none
      | none => none) with
    | some e => some e
    | none =>
      match audioPayload tr.codec data with
      | .error e => some e
      | .ok sd => if sd.length > u32Max then some .durationOverflow else none

/-- the state after an accepted audio sample whose stored payload is `sd` -/
def Writer.audioPush (w : Writer) (pts : Nat) (sd : Bytes) : Writer :=
  let s : Sample := ⟨pts, pts, sd, false, none⟩
  match w.aPrev with
  | some prev =>
    { w with asRev := s :: setLastDur w.asRev (pts - prev), aLastDelta := some (pts - prev), aPrev := some pts }
  | none => { w with asRev := s :: w.asRev, aPrev := some pts }

def storedAudio (w : Writer) (data : Bytes) : Bytes :=
  match w.audio with
  | some tr => (match audioPayload tr.codec data with | .ok sd => sd | .error _ => [])
  | none => []

theorem Writer.writeAudio_eq (w : Writer) (pts : Nat) (d : Bytes) :
    w.writeAudio pts d =
      match w.audioErr pts d with
      | some e => (w, .err e)
      | none => (w.audioPush pts (storedAudio w d), .ok) := by
  unfold Writer.writeAudio Writer.audioErr Writer.audioPush storedAudio audioPayload
  by_cases hf : w.finalized = true
  · rw [if_pos hf, if_pos hf]
  rw [if_neg hf, if_neg hf]
  -- the stage after the timestamp checks, for any payload conversion `p` and any update `upd`
  have tail : ∀ (p : Except WErr Bytes) (upd : Bytes → Writer),
      (match p with
        | .error e => (w, WRes.err e)
        | .ok sd => if sd.length > u32Max then (w, .err .durationOverflow) else (upd sd, .ok)) =
      match (match p with
        | .error e => some e
        | .ok sd => if sd.length > u32Max then some WErr.durationOverflow else none) with
      | some e => (w, .err e)
      | none => (upd (match p with | .ok sd => sd | .error _ => []), .ok) := fun p upd => by
    cases p with
    | error e => rfl
    | ok sd =>
      dsimp only
      by_cases h3 : sd.length > u32Max
      · rw [if_pos h3, if_pos h3]
      · rw [if_neg h3, if_neg h3]
  obtain ⟨codec, vs, vp, vld, vc, au, as, ap, ald, fin, bw⟩ := w
  cases au with
  | none => rfl
  | some tr =>
    cases ap with
    | some prev =>
      dsimp only
      by_cases h1 : pts < prev
      · rw [if_pos h1, if_pos h1]
      rw [if_neg h1, if_neg h1]
      by_cases h2 : pts - prev > u32Max
      · rw [if_pos h2, if_pos h2]
      rw [if_neg h2, if_neg h2]
      exact tail _ _
    | none => exact tail _ _

theorem Writer.writeVideo_not_ok (w : Writer) (pts dts : Nat) (d : Bytes) (k : Bool)
    (h : (w.writeVideo pts dts d k).2 ≠ .ok) : (w.writeVideo pts dts d k).1 = w := by
  rw [Writer.writeVideo_eq] at h ⊢
  cases he : w.videoErr pts dts d k with
  | some e => rfl
  | none => rw [he] at h; exact absurd rfl h

theorem Writer.writeAudio_not_ok (w : Writer) (pts : Nat) (d : Bytes)
    (h : (w.writeAudio pts d).2 ≠ .ok) : (w.writeAudio pts d).1 = w := by
  rw [Writer.writeAudio_eq] at h ⊢
  cases he : w.audioErr pts d with
  | some e => rfl
  | none => rw [he] at h; exact absurd rfl h

theorem Writer.writeVideo_ne_panic (w : Writer) (pts dts : Nat) (d : Bytes) (k : Bool) :
    (w.writeVideo pts dts d k).2 ≠ .panic := by
  rw [Writer.writeVideo_eq]
  cases w.videoErr pts dts d k <;> simp

theorem Writer.writeAudio_ne_panic (w : Writer) (pts : Nat) (d : Bytes) :
    (w.writeAudio pts d).2 ≠ .panic := by
  rw [Writer.writeAudio_eq]
  cases w.audioErr pts d <;> simp

theorem convertErr_eq_err (e : WErr) (idx : Nat) : ∃ e' i, convertErr e idx = .err e' i := by
  cases e <;> exact ⟨_, _, rfl⟩

/-- A frame-writing API call answers in one of three ways: its own guards refuse (`pre`), the writer
    refuses (`werr`, converted, with the frame index `idx`), or the frame is accepted and the muxer
    becomes `acc`. Either refusal returns the muxer as it was. -/
def Muxer.answer (m : Muxer) (pre : Option (MErr × Option Nat)) (werr : Option WErr) (idx : Nat) (acc : Muxer) :
    Muxer × Reply :=
  match pre with
  | some (e, i) => (m, .err e i)
  | none =>
    match werr with
    | some e => (m, convertErr e idx)
    | none => (acc, .ok)

theorem Muxer.answer_ite (m : Muxer) (c : Prop) [Decidable c] (e : MErr) (i : Option Nat)
    (pre : Option (MErr × Option Nat)) (werr : Option WErr) (idx : Nat) (acc : Muxer) :
    m.answer (if c then some (e, i) else pre) werr idx acc =
      if c then (m, .err e i) else m.answer pre werr idx acc := by
  split <;> rfl

theorem Muxer.answer_cases (m : Muxer) (pre : Option (MErr × Option Nat)) (werr : Option WErr) (idx : Nat)
    (acc : Muxer) :
    (∃ e i, m.answer pre werr idx acc = (m, .err e i)) ∨
    (pre = none ∧ werr = none ∧ m.answer pre werr idx acc = (acc, .ok)) := by
  cases pre with
  | some p => exact .inl ⟨_, _, rfl⟩
  | none =>
    cases werr with
    | some e => obtain ⟨e', i, h⟩ := convertErr_eq_err e idx; exact .inl ⟨e', i, congrArg (Prod.mk m) h⟩
    | none => exact .inr ⟨rfl, rfl, rfl⟩

def prevLe (x : F64) (prev : Option F64) : Bool :=
  match prev with | some p => F64.le x p | none => false
def prevLt (x : F64) (prev : Option F64) : Bool :=
  match prev with | some p => F64.lt x p | none => false

/-- the checks every frame-writing call makes on each of its time arguments -/
def TsOk (x : F64) : Prop := x.isFinite = true ∧ x.isNeg = false ∧ ticksRepresentable x = true

/-- the muxer after an accepted video frame; `lvd` is the new `last_video_dts` (`write_video`
    leaves it alone, `write_video_with_dts` sets it) -/
def Muxer.pushVideo (m : Muxer) (pts dts : F64) (d : Bytes) (k : Bool) (lvd : Option F64) : Muxer :=
  { m with w := m.w.videoPush pts.ticks dts.ticks d k, firstVideoPts := some (m.firstVideoPts.getD pts),
           lastVideoPts := some pts, lastVideoDts := lvd, vCount := m.vCount + 1 }

/-- the muxer after an accepted audio frame -/
def Muxer.pushAudio (m : Muxer) (pts : F64) (d : Bytes) : Muxer :=
  { m with w := m.w.audioPush pts.ticks (storedAudio m.w d), lastAudioPts := some pts, aCount := m.aCount + 1 }

/-- the API-level checks of `write_video` (before the writer is called) -/
def Muxer.wvPre (m : Muxer) (pts : F64) (data : Bytes) : Option MErr :=
  if data = [] then some .emptyVideoFrame else
  if ¬ pts.isFinite then some .invalidVideoPts else
  if pts.isNeg then some .negativeVideoPts else
  if ¬ ticksRepresentable pts then some .invalidVideoPts else
  if prevLe pts m.lastVideoPts then some .nonIncreasingVideoPts else none

theorem Muxer.wvPre_eq_none {m : Muxer} {pts : F64} {d : Bytes} :
    m.wvPre pts d = none ↔ d ≠ [] ∧ TsOk pts ∧ prevLe pts m.lastVideoPts = false := by
  simp only [Muxer.wvPre, ite_some_eq_none, TsOk, Bool.not_eq_true, Bool.not_eq_false, ne_eq, and_true, and_assoc]

/-- `write_video` in answer form. Both sides are the same chain of guards (`answer_ite` moves
    `answer` through it); below it stand the two outcomes of the writer call. -/
theorem Muxer.writeVideo_answer (m : Muxer) (pts : F64) (d : Bytes) (k : Bool) :
    m.writeVideo pts d k =
      m.answer ((m.wvPre pts d).map (·, some m.vCount)) (m.w.videoErr pts.ticks pts.ticks d k) m.vCount
        (m.pushVideo pts pts d k m.lastVideoDts) := by
  simp only [Muxer.writeVideo, Muxer.wvPre, apply_ite (Option.map _), Option.map_some, Option.map_none,
    Muxer.answer_ite, Writer.writeVideo_eq]
  repeat refine ite_congr rfl (fun _ => rfl) (fun _ => ?_)
  cases m.w.videoErr pts.ticks pts.ticks d k <;> rfl

def Muxer.wvdPre (m : Muxer) (pts dts : F64) (data : Bytes) : Option (MErr × Option Nat) :=
  if m.finished then some (.alreadyFinished, none) else
  if data = [] then some (.emptyVideoFrame, some m.vCount) else
  if ¬ pts.isFinite then some (.invalidVideoPts, some m.vCount) else
  if pts.isNeg then some (.negativeVideoPts, some m.vCount) else
  if ¬ ticksRepresentable pts then some (.invalidVideoPts, some m.vCount) else
  if ¬ dts.isFinite then some (.invalidVideoDts, some m.vCount) else
  if dts.isNeg then some (.negativeVideoDts, some m.vCount) else
  if ¬ ticksRepresentable dts then some (.invalidVideoDts, some m.vCount) else
  if prevLe dts m.lastVideoDts then some (.nonIncreasingDts, some m.vCount) else none

theorem Muxer.wvdPre_eq_none {m : Muxer} {pts dts : F64} {d : Bytes} :
    m.wvdPre pts dts d = none ↔
      m.finished = false ∧ d ≠ [] ∧ TsOk pts ∧ TsOk dts ∧ prevLe dts m.lastVideoDts = false := by
  simp only [Muxer.wvdPre, ite_some_eq_none, TsOk, Bool.not_eq_true, Bool.not_eq_false, ne_eq, and_true, and_assoc]

theorem Muxer.writeVideoDts_answer (m : Muxer) (pts dts : F64) (d : Bytes) (k : Bool) :
    m.writeVideoDts pts dts d k =
      m.answer (m.wvdPre pts dts d) (m.w.videoErr pts.ticks dts.ticks d k) m.vCount
        (m.pushVideo pts dts d k (some dts)) := by
  simp only [Muxer.writeVideoDts, Muxer.wvdPre, Muxer.answer_ite, Writer.writeVideo_eq]
  repeat refine ite_congr rfl (fun _ => rfl) (fun _ => ?_)
  cases m.w.videoErr pts.ticks dts.ticks d k <;> rfl

def Muxer.waPre (m : Muxer) (pts : F64) (data : Bytes) : Option (MErr × Option Nat) :=
  if m.finished then some (.alreadyFinished, none) else
  if m.audioTrack.isNone then some (.audioNotConfigured, none) else
  if ¬ pts.isFinite then some (.invalidAudioPts, some m.aCount) else
  if pts.isNeg then some (.negativeAudioPts, some m.aCount) else
  if ¬ ticksRepresentable pts then some (.invalidAudioPts, some m.aCount) else
  if data = [] then some (.emptyAudioFrame, some m.aCount) else
  if prevLt pts m.lastAudioPts then some (.decreasingAudioPts, some m.aCount) else
  match m.firstVideoPts with
  | none => some (.audioBeforeFirstVideo, none)
  | some fv => if F64.lt pts fv then some (.audioBeforeFirstVideo, none) else none

theorem Muxer.waPre_eq_none {m : Muxer} {pts : F64} {d : Bytes} :
    m.waPre pts d = none ↔
      m.finished = false ∧ m.audioTrack.isSome = true ∧ TsOk pts ∧ d ≠ [] ∧ prevLt pts m.lastAudioPts = false ∧
      ∃ fv, m.firstVideoPts = some fv ∧ F64.lt pts fv = false := by
  simp only [Muxer.waPre, ite_some_eq_none, TsOk, Bool.not_eq_true, Bool.not_eq_false, ne_eq, and_assoc]
  cases m.firstVideoPts <;> cases m.audioTrack <;> simp

theorem Muxer.writeAudio_answer (m : Muxer) (pts : F64) (d : Bytes) :
    m.writeAudio pts d =
      m.answer (m.waPre pts d) (m.w.audioErr pts.ticks d) m.aCount (m.pushAudio pts d) := by
  -- `m` is taken apart so that the case split on `firstVideoPts` also reaches the field inside `pushAudio`
  obtain ⟨w, width, height, at_, md, fast, fvp, lvp, lvd, lap, vc, ac, fin, cv, ca⟩ := m
  simp only [Muxer.writeAudio, Muxer.waPre, Muxer.answer_ite, Writer.writeAudio_eq]
  repeat refine ite_congr rfl (fun _ => rfl) (fun _ => ?_)
  cases fvp with
  | none => rfl
  | some fv =>
    simp only [Muxer.answer_ite]
    refine ite_congr rfl (fun _ => rfl) (fun _ => ?_)
    cases w.audioErr pts.ticks d <;> rfl

theorem Muxer.writeVideo_cases (m : Muxer) (pts : F64) (d : Bytes) (k : Bool) :
    (∃ e i, m.writeVideo pts d k = (m, .err e i)) ∨
    (m.wvPre pts d = none ∧ m.w.videoErr pts.ticks pts.ticks d k = none ∧
      m.writeVideo pts d k = (m.pushVideo pts pts d k m.lastVideoDts, .ok)) := by
  rw [Muxer.writeVideo_answer]
  exact (Muxer.answer_cases ..).imp_right fun ⟨h1, h2⟩ => ⟨Option.map_eq_none_iff.mp h1, h2⟩

theorem Muxer.writeVideoDts_cases (m : Muxer) (pts dts : F64) (d : Bytes) (k : Bool) :
    (∃ e i, m.writeVideoDts pts dts d k = (m, .err e i)) ∨
    (m.wvdPre pts dts d = none ∧ m.w.videoErr pts.ticks dts.ticks d k = none ∧
      m.writeVideoDts pts dts d k = (m.pushVideo pts dts d k (some dts), .ok)) := by
  rw [Muxer.writeVideoDts_answer]; exact Muxer.answer_cases ..

theorem Muxer.writeAudio_cases (m : Muxer) (pts : F64) (d : Bytes) :
    (∃ e i, m.writeAudio pts d = (m, .err e i)) ∨
    (m.waPre pts d = none ∧ m.w.audioErr pts.ticks d = none ∧
      m.writeAudio pts d = (m.pushAudio pts d, .ok)) := by
  rw [Muxer.writeAudio_answer]; exact Muxer.answer_cases ..

/-! ### the convenience calls: the explicit call at the running clock, which advances on `ok` only -/

theorem Muxer.encodeVideo_eq (m : Muxer) (d : Bytes) (ms : Nat) :
    m.encodeVideo d ms =
      let r := m.writeVideo m.curV d (m.isKeyframe d)
      (if r.2 = .ok then { r.1 with curV := F64.add r.1.curV (F64.div (F64.ofNat ms) (F64.ofNat 1000)) } else r.1,
       r.2) := by
  unfold Muxer.encodeVideo
  generalize m.writeVideo m.curV d (m.isKeyframe d) = r
  obtain ⟨m', r⟩ := r
  cases r <;> rfl

theorem Muxer.encodeAudio_eq (m : Muxer) (d : Bytes) (n : Nat) (a : AudioTrack) (ha : m.audioTrack = some a) :
    m.encodeAudio d n =
      let r := m.writeAudio m.curA d
      (if r.2 = .ok then { r.1 with curA := F64.add r.1.curA (F64.div (F64.ofNat n) (F64.ofNat a.sampleRate)) }
       else r.1, r.2) := by
  unfold Muxer.encodeAudio
  rw [ha]
  generalize m.writeAudio m.curA d = r
  obtain ⟨m', r⟩ := r
  cases r <;> rfl

theorem Muxer.encodeAudio_none (m : Muxer) (d : Bytes) (n : Nat) (ha : m.audioTrack = none) :
    m.encodeAudio d n = (m, .err .audioNotConfigured none) := by
  unfold Muxer.encodeAudio; rw [ha]

theorem Muxer.encodeVideo_cases (m : Muxer) (d : Bytes) (ms : Nat) :
    (∃ e i, m.encodeVideo d ms = (m, .err e i)) ∨
    (m.wvPre m.curV d = none ∧ m.w.videoErr m.curV.ticks m.curV.ticks d (m.isKeyframe d) = none ∧
      m.encodeVideo d ms =
        ({ m.pushVideo m.curV m.curV d (m.isKeyframe d) m.lastVideoDts with
            curV := F64.add m.curV (F64.div (F64.ofNat ms) (F64.ofNat 1000)) }, .ok)) := by
  rw [Muxer.encodeVideo_eq]
  rcases m.writeVideo_cases m.curV d (m.isKeyframe d) with ⟨e, i, h⟩ | ⟨h1, h2, h⟩ <;> rw [h]
  · exact .inl ⟨e, i, rfl⟩
  · exact .inr ⟨h1, h2, rfl⟩

theorem Muxer.encodeAudio_cases (m : Muxer) (d : Bytes) (n : Nat) :
    (∃ e i, m.encodeAudio d n = (m, .err e i)) ∨
    (∃ a, m.audioTrack = some a ∧ m.waPre m.curA d = none ∧ m.w.audioErr m.curA.ticks d = none ∧
      m.encodeAudio d n =
        ({ m.pushAudio m.curA d with
            curA := F64.add m.curA (F64.div (F64.ofNat n) (F64.ofNat a.sampleRate)) }, .ok)) := by
  cases ha : m.audioTrack with
  | none => exact .inl ⟨_, _, m.encodeAudio_none d n ha⟩
  | some a =>
    rw [Muxer.encodeAudio_eq m d n a ha]
    rcases m.writeAudio_cases m.curA d with ⟨e, i, h⟩ | ⟨h1, h2, h⟩ <;> rw [h]
    · exact .inl ⟨e, i, rfl⟩
    · exact .inr ⟨a, rfl, h1, h2, rfl⟩

/-- the reply of `finish_in_place_with_stats` once `finalize` has reported `res`, the sink `wr`, and the
    writer (with its byte counter brought up to date) is `w` -/
def finishReply (wr : Except IoErr Unit) (res : FinRes) (w : Writer) : Reply :=
  match wr, res with
  | .error _, _ => .err .io none
  | .ok (), .panic => .panic
  | .ok (), .ioErr _ => .err .io none
  | .ok (), .ok => .stats ⟨w.vsRev.length, w.asRev.length,
      F64.div (F64.ofNat (w.maxEndPts.getD 0)) (F64.ofNat 90000), w.bytesWritten⟩

theorem Muxer.finishStats_finished (m : Muxer) (deliver : Deliver) (hf : m.finished = true) :
    m.finishStats deliver = (m, ⟨[], .ok⟩, .err .alreadyFinished none) := by
  unfold Muxer.finishStats; rw [if_pos hf]

/-- `finish_in_place_with_stats` on a muxer not yet finished, for any sink: one `finalize`, its chunks
    offered to the sink, the byte counter advanced by what the sink counted, `finished` set exactly
    when both succeeded -/
theorem Muxer.finishStats_eq (m : Muxer) (deliver : Deliver) (hf : m.finished = false) :
    m.finishStats deliver =
      let fo := m.w.finalize m.width m.height m.md m.fast
      let dl := deliver fo.2.chunks
      let w' := { fo.1 with bytesWritten := min (fo.1.bytesWritten + dl.2) u64Max }
      ({ m with w := w', finished := dl.1.isOk && decide (fo.2.res = .ok) }, fo.2,
        finishReply dl.1 fo.2.res w') := by
  unfold Muxer.finishStats
  rw [hf]
  simp only [Bool.false_eq_true, if_false]
  generalize m.w.finalize m.width m.height m.md m.fast = fo
  generalize deliver fo.2.chunks = dl
  obtain ⟨wr, cnt⟩ := dl
  obtain ⟨w', chunks, res⟩ := fo
  cases m; cases hf
  cases wr with
  | error e => rfl
  | ok u => cases res <;> rfl

/-- `finish_in_place` answers `ok` where `finish_in_place_with_stats` answers the statistics -/
def Reply.dropStats : Reply → Reply
  | .stats _ => .ok
  | .ok => .ok
  | .err e i => .err e i
  | .panic => .panic

theorem Muxer.finish_eq (m : Muxer) (deliver : Deliver) :
    m.finish deliver =
      ((m.finishStats deliver).1, (m.finishStats deliver).2.1, (m.finishStats deliver).2.2.dropStats) := by
  unfold Muxer.finish
  obtain ⟨m', o, r⟩ := m.finishStats deliver
  cases r <;> rfl

theorem finishReply_ne_ok (wr : Except IoErr Unit) (res : FinRes) (w : Writer) : finishReply wr res w ≠ .ok := by
  unfold finishReply; split <;> simp

theorem Muxer.finishStats_ne_ok (m : Muxer) (deliver : Deliver) : (m.finishStats deliver).2.2 ≠ .ok := by
  cases hf : m.finished with
  | true => rw [m.finishStats_finished _ hf]; nofun
  | false => rw [m.finishStats_eq _ hf]; exact finishReply_ne_ok _ _ _

theorem finishReply_eq_panic {wr : Except IoErr Unit} {res : FinRes} {w : Writer}
    (h : finishReply wr res w = .panic) : res = .panic := by
  unfold finishReply at h; split at h <;> first | rfl | cases h

end Muxide
