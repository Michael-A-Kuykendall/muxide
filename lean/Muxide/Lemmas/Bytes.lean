import Muxide.Model.Basic
/-
  Muxide.Lemmas.Bytes — the fixed-width integer encodings of Muxide.Model.Basic: what a written byte holds,
  that the encodings see their argument only modulo the field width, and the read/write round trips;
  at the end what several modules share: the step of an `Option` chain, two facts about sums of lengths.
-/
namespace Muxide

theorem toNat_u8 (n : Nat) : (u8 n).toNat = n % 256 := by simp [u8]

theorem u8_of_toNat (b : UInt8) : u8 b.toNat = b := by simp [u8]

theorem u8_mod (n : Nat) : u8 (n % 256) = u8 n := by
  apply UInt8.toNat_inj.mp
  simp [u8]

/-- bits `m` to `m + l - 1` of `x` are those of `x` modulo any `2^n` that contains them: an `as u16` / `as u32`
    cast before `to_be_bytes` changes no byte that `u16be` / `u32be` write, and a bit field of the ADTS header that
    lies inside one byte can be read from that byte -/
theorem div_mod_pow (x : Nat) {m l n : Nat} (h : m + l ≤ n) : x % 2^n / 2^m % 2^l = x / 2^m % 2^l := by
  obtain ⟨k, rfl⟩ : ∃ k, n = m + (l + k) := ⟨n - m - l, by omega⟩
  rw [Nat.pow_add, Nat.mod_mul_right_div_self, Nat.pow_add, Nat.mod_mul_right_mod]

theorem u16be_mod (n : Nat) : u16be n = u16be (n % 2^16) := by
  simp only [u16be, div_mod_pow n (by decide : 8 + 8 ≤ 16), Nat.mod_mod_of_dvd n (by decide : 256 ∣ 2^16)]

theorem u32be_mod (n : Nat) : u32be n = u32be (n % 2^32) := by
  simp only [u32be, div_mod_pow n (by decide : 24 + 8 ≤ 32), div_mod_pow n (by decide : 16 + 8 ≤ 32),
    div_mod_pow n (by decide : 8 + 8 ≤ 32), Nat.mod_mod_of_dvd n (by decide : 256 ∣ 2^32)]

/-- the low `a + b` bits of `n`: bits `a` to `a + b - 1`, then the low `a` bits -/
theorem mod_pow_add (n a b : Nat) : n % 2^(a + b) = n / 2^a % 2^b * 2^a + n % 2^a := by
  rw [Nat.pow_add, Nat.mod_mul, Nat.mul_comm, Nat.add_comm]

theorem bytes2_value (n : Nat) : n / 2^8 % 256 * 2^8 + n % 256 = n % 2^16 := (mod_pow_add n 8 8).symm

theorem bytes4_value (n : Nat) :
    n / 2^24 % 256 * 2^24 + n / 2^16 % 256 * 2^16 + n / 2^8 % 256 * 2^8 + n % 256 = n % 2^32 := by
  rw [mod_pow_add n 24 8, mod_pow_add n 16 8, mod_pow_add n 8 8, Nat.add_assoc, Nat.add_assoc]

theorem readU16_u16be_mod (n : Nat) (rest : Bytes) : readU16 (u16be n ++ rest) = some (n % 2^16, rest) := by
  simp only [u16be, readU16, List.cons_append, List.nil_append, toNat_u8, Nat.mod_mod, bytes2_value]

theorem readU32_u32be_mod (n : Nat) (rest : Bytes) : readU32 (u32be n ++ rest) = some (n % 2^32, rest) := by
  simp only [u32be, readU32, List.cons_append, List.nil_append, toNat_u8, Nat.mod_mod, bytes4_value]

theorem readU16_u16be (n : Nat) (h : n < 2^16) (rest : Bytes) :
    readU16 (u16be n ++ rest) = some (n, rest) := by
  rw [readU16_u16be_mod, Nat.mod_eq_of_lt h]

theorem readU32_u32be (n : Nat) (h : n < 2^32) (rest : Bytes) :
    readU32 (u32be n ++ rest) = some (n, rest) := by
  rw [readU32_u32be_mod, Nat.mod_eq_of_lt h]

theorem readU64_u64be_mod (n : Nat) (rest : Bytes) : readU64 (u64be n ++ rest) = some (n % 2^64, rest) := by
  simp only [readU64, u64be, List.append_assoc, readU32_u32be_mod, mod_pow_add n 32 32]

theorem readU64_u64be (n : Nat) (h : n < 2^64) (rest : Bytes) :
    readU64 (u64be n ++ rest) = some (n, rest) := by
  rw [readU64_u64be_mod, Nat.mod_eq_of_lt h]

theorem u32be_ne_nil (n : Nat) : u32be n ≠ [] := by simp [u32be]

theorem i32be_toI32 (n : Nat) (h : n < 2^32) : i32be (toI32 n) = u32be n := by
  have : (toI32 n % (2^32 : Int)).toNat = n := by
    unfold toI32
    split <;> omega
  rw [i32be, this]

theorem toI32_wrap (z : Int) : toI32 (z % (2^32 : Int)).toNat = (z + 2^31) % 2^32 - 2^31 := by
  unfold toI32
  split <;> omega

theorem toI32_i32 (z : Int) (h1 : -(2^31 : Int) ≤ z) (h2 : z < 2^31) :
    toI32 (z % (2^32 : Int)).toNat = z := by
  rw [toI32_wrap]
  omega

theorem toI32_range (n : Nat) (h : n < 2^32) : -(2^31 : Int) ≤ toI32 n ∧ toI32 n < 2^31 := by
  unfold toI32; split <;> omega

/-- the next bind of a `do` block in `Option`, given the value it produces: a reader that is a chain of binds is
    run on what a writer appended by feeding it, step by step, the round-trip fact of each piece -/
theorem bind_step {α β} {x : Option α} {a : α} {k : α → Option β} {y : β} (hx : x = some a) (hk : k a = some y) :
    x.bind k = some y :=
  Option.bind_eq_some_iff.2 ⟨a, hx, hk⟩

theorem le_sum_of_mem (l : List Nat) (x : Nat) (h : x ∈ l) : x ≤ l.sum := by
  induction l with
  | nil => simp at h
  | cons y l ih =>
    simp only [List.mem_cons] at h
    simp only [List.sum_cons]
    rcases h with rfl | h
    · omega
    · have := ih h; omega

theorem length_le_sum_map {α} (f : α → Nat) (l : List α) (h : ∀ x ∈ l, 1 ≤ f x) :
    l.length ≤ (l.map f).sum := by
  induction l with
  | nil => exact Nat.le_refl _
  | cons x l ih =>
    have := h x List.mem_cons_self
    have := ih fun y hy => h y (List.mem_cons_of_mem _ hy)
    rw [List.map_cons, List.sum_cons, List.length_cons]
    omega

end Muxide
