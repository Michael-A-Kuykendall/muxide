import Muxide.Model.Mp4
import Muxide.Spec.Expect
/-
  Muxide.Lemmas.Date — the year loop and the month loop of `days_to_ymd` against the
  calendar-by-summation of `Muxide.Spec.daysFromCivil`.
-/
namespace Muxide
open Muxide.Spec

theorem isLeapYear_eq (y : Nat) : isLeapYear y = isLeap y := by
  rw [Bool.eq_iff_iff]; simp [isLeapYear, isLeap]

/-- days from 1970-01-01 to y-01-01, the year summand of `daysFromCivil` -/
def yearSum (y : Nat) : Nat :=
  ((List.range (y - 1970)).map fun i => if isLeapYear (1970 + i) then 366 else 365).sum

/-- days from y-01-01 to y-m-01, the month summand of `daysFromCivil` -/
def monthSum (y m : Nat) : Nat :=
  ((List.range (m - 1)).map fun i => daysInMonth y (i + 1)).sum

theorem daysFromCivil_eq (y m d : Nat) : daysFromCivil y m d = yearSum y + monthSum y m + (d - 1) := rfl

theorem daysFromCivil_jan1 (y : Nat) : daysFromCivil y 1 1 = yearSum y := by
  simp [daysFromCivil_eq, monthSum]

theorem yearLen_ge (y : Nat) : 365 ≤ yearLen y := by unfold yearLen; split <;> omega

theorem yearSum_1970 : yearSum 1970 = 0 := rfl

theorem yearSum_succ (y : Nat) (hy : 1970 ≤ y) : yearSum (y + 1) = yearSum y + yearLen y := by
  obtain ⟨k, rfl⟩ := Nat.exists_eq_add_of_le hy
  simp [yearSum, yearLen, List.range_succ, isLeapYear_eq, Nat.add_assoc]

theorem yearSum_mono {y z : Nat} (hy : 1970 ≤ y) (h : y ≤ z) : yearSum y ≤ yearSum z := by
  obtain ⟨k, rfl⟩ := Nat.exists_eq_add_of_le h
  induction k with
  | zero => exact Nat.le_refl _
  | succ k ih => rw [← Nat.add_assoc, yearSum_succ _ (by omega)]; have := ih (by omega); omega

theorem monthSum_succ (y m : Nat) (hm : 1 ≤ m) : monthSum y (m + 1) = monthSum y m + daysInMonth y m := by
  obtain ⟨k, rfl⟩ := Nat.exists_eq_add_of_le hm
  simp [monthSum, List.range_succ, Nat.add_comm]

/-- number of times the year loop executes `year += 1` (mirror of `yearLoop`); the Rust loop enters its body once
    more, for the `break` -/
def yearLoopSteps : Nat → Nat → Nat → Nat
  | 0, _, _ => 0
  | f + 1, y, r => if r < yearLen y then 0 else yearLoopSteps f (y + 1) (r - yearLen y) + 1

theorem yearLoop_year (f y r : Nat) : (yearLoop f y r).1 = y + yearLoopSteps f y r := by
  fun_induction yearLoop f y r <;> simp [yearLoopSteps, *]; omega

theorem yearLoopSteps_le_fuel (f y r : Nat) : yearLoopSteps f y r ≤ f := by
  fun_induction yearLoopSteps f y r <;> omega

/-- every iteration moves one whole year from the remainder to the year: whatever the fuel, the day
    `yearSum y + r` the loop starts on is day `r'` of the year `y'` it returns -/
theorem yearLoop_sum (f y r : Nat) (hy : 1970 ≤ y) :
    yearSum (yearLoop f y r).1 + (yearLoop f y r).2 = yearSum y + r := by
  fun_induction yearLoop f y r with
  | case1 | case2 => rfl
  | case3 f y r h ih => rw [ih (by omega), yearSum_succ y hy]; omega

/-- with a unit of fuel for every 365 days the loop stops by its exit condition -/
theorem yearLoop_exit (f y r : Nat) (hf : r < 365 * (f + 1)) :
    (yearLoop f y r).2 < yearLen (yearLoop f y r).1 := by
  fun_induction yearLoop f y r with
  | case1 y r => have := yearLen_ge y; simp; omega
  | case2 f y r h => exact h
  | case3 f y r h ih => have := yearLen_ge y; exact ih (by omega)

theorem yearLoop_fuel_irrel (f k y r : Nat) (hf : yearLoopSteps f y r < f) :
    yearLoop (f + k) y r = yearLoop f y r := by
  fun_induction yearLoopSteps f y r with
  | case1 => omega
  | case2 f y r h => rw [Nat.succ_add]; simp [yearLoop, h]
  | case3 f y r h ih => rw [Nat.succ_add]; simp only [yearLoop, if_neg h]; exact ih (by omega)

theorem monthLoop_spec (ls : List Nat) (m r : Nat) (h : r < ls.sum) :
    ∃ k, k < ls.length ∧ (ls.take k).sum ≤ r ∧ r < (ls.take (k + 1)).sum ∧
      monthLoop ls m r = (m + k, r - (ls.take k).sum) := by
  fun_induction monthLoop ls m r with
  | case1 => simp at h
  | case2 l ls m r hl => exact ⟨0, by simp, by simp, by simpa using hl, rfl⟩
  | case3 l ls m r hl ih =>
    obtain ⟨k, h1, h2, h3, h4⟩ := ih (by simp at h; omega)
    exact ⟨k + 1, by simpa using h1, by simp; omega, by simp; omega, by simp [h4]; omega⟩

theorem monthLens_eq (y : Nat) : monthLens y = (List.range 12).map fun i => daysInMonth y (i + 1) := by
  simp only [monthLens, daysInMonth, ← isLeapYear_eq]
  cases isLeapYear y <;> rfl

theorem monthLens_sum (y : Nat) : (monthLens y).sum = yearLen y := by
  unfold monthLens yearLen
  cases isLeap y <;> rfl

theorem monthLens_take (y k : Nat) (hk : k ≤ 12) : ((monthLens y).take k).sum = monthSum y (k + 1) := by
  rw [monthLens_eq, ← List.map_take, List.take_range, Nat.min_eq_left hk]; rfl

theorem monthLoop_monthLens (y r : Nat) (hr : r < yearLen y) :
    ∃ m, 1 ≤ m ∧ m ≤ 12 ∧ monthSum y m ≤ r ∧ r - monthSum y m < daysInMonth y m ∧
      monthLoop (monthLens y) 1 r = (m, r - monthSum y m) := by
  obtain ⟨k, hk, h1, h2, h3⟩ := monthLoop_spec (monthLens y) 1 r (by rw [monthLens_sum]; exact hr)
  have hk : k < 12 := by simpa [monthLens_eq] using hk
  rw [monthLens_take y _ (by omega)] at h1 h2 h3
  rw [monthSum_succ y _ (by omega)] at h2
  exact ⟨k + 1, by omega, by omega, h1, by omega, by rw [h3, Nat.add_comm]⟩

/-- leap years in 1..y -/
def leapsUpTo (y : Nat) : Nat := y / 4 - y / 100 + y / 400

theorem leapsUpTo_spec (y : Nat) : leapsUpTo y + y / 100 = y / 4 + y / 400 := by
  rw [leapsUpTo, Nat.add_right_comm, Nat.sub_add_cancel (Nat.div_le_div_left (by decide) (by decide))]

theorem isLeap_iff (y : Nat) : isLeap y = true ↔ (4 ∣ y ∧ ¬ 100 ∣ y) ∨ 400 ∣ y := by
  simp [isLeap, Nat.dvd_iff_mod_eq_zero]

/-- each of the three quotients steps by one exactly at its multiples (`Nat.succ_div`), and a multiple of
    400 is one of 100, which is one of 4; the quotients themselves stay atoms for `omega` -/
theorem leapsUpTo_succ (y : Nat) : leapsUpTo (y + 1) = leapsUpTo y + (if isLeap (y + 1) then 1 else 0) := by
  have m1 : y / 100 ≤ y / 4 := Nat.div_le_div_left (by decide) (by decide)
  have d1 : 400 ∣ y + 1 → 100 ∣ y + 1 := Nat.dvd_trans (by decide)
  have d2 : 100 ∣ y + 1 → 4 ∣ y + 1 := Nat.dvd_trans (by decide)
  simp only [leapsUpTo, Nat.succ_div, isLeap_iff]
  generalize y / 4 = a, y / 100 = b, y / 400 = c at *
  by_cases c4 : 4 ∣ y + 1 <;> by_cases c100 : 100 ∣ y + 1 <;> by_cases c400 : 400 ∣ y + 1 <;>
    simp_all <;> omega

theorem leapsUpTo_1969 : leapsUpTo 1969 = 477 := by decide

/-- the closed form counted from 1970 (`477 = leapsUpTo 1969`) -/
theorem yearSum_closed_from (k : Nat) : yearSum (1970 + k) + 477 = 365 * k + leapsUpTo (1969 + k) := by
  induction k with
  | zero => rfl
  | succ k ih =>
    rw [← Nat.add_assoc, yearSum_succ _ (by omega), ← Nat.add_assoc, leapsUpTo_succ,
      show 1969 + k + 1 = 1970 + k by omega, yearLen]
    split <;> omega

theorem yearSum_closed (y : Nat) (hy : 1970 ≤ y) : yearSum y + 477 = 365 * (y - 1970) + leapsUpTo (y - 1) := by
  obtain ⟨k, rfl⟩ := Nat.exists_eq_add_of_le hy
  simpa using yearSum_closed_from k

theorem yearSum_10000 : yearSum 10000 = 2932897 := by
  have h := yearSum_closed 10000 (by omega)
  have e : leapsUpTo (10000 - 1) = 2424 := by decide
  generalize yearSum 10000 = x at h ⊢
  omega

theorem leapsUpTo_add_cycles (n c : Nat) : leapsUpTo (n + 400 * c) = leapsUpTo n + 97 * c := by
  have s1 := leapsUpTo_spec n
  have s2 := leapsUpTo_spec (n + 400 * c)
  omega

/-- 400 consecutive Gregorian years have 146 097 (= 400·365 + 97) days -/
theorem yearSum_add_cycles (y c : Nat) (hy : 1970 ≤ y) : yearSum (y + 400 * c) = yearSum y + 146097 * c := by
  obtain ⟨k, rfl⟩ := Nat.exists_eq_add_of_le hy
  have h1 := yearSum_closed_from k
  have h2 := yearSum_closed_from (k + 400 * c)
  rw [← Nat.add_assoc, ← Nat.add_assoc, leapsUpTo_add_cycles] at h2
  omega

/-- the year part of `days_to_ymd`: the result is the year `y` that contains day `days`, and the month
    loop run on the day-of-year `r`.  The loop starts in year `1970 + 400·(days / 146097)`, which is day
    `146097·(days / 146097)`, with `days % 146097` days left and fuel 401: the fuel always suffices. -/
theorem daysToYmd_eq (days : Nat) : ∃ y r, 1970 ≤ y ∧ r < yearLen y ∧ yearSum y + r = days ∧
    daysToYmd days = (y, (monthLoop (monthLens y) 1 r).1, (monthLoop (monthLens y) 1 r).2 + 1) := by
  have hm : days % 146097 < 146097 := Nat.mod_lt _ (by omega)
  have h1 := yearLoop_year 401 (1970 + 400 * (days / 146097)) (days % 146097)
  have h2 := yearLoop_sum 401 (1970 + 400 * (days / 146097)) (days % 146097) (by omega)
  have h3 := yearLoop_exit 401 (1970 + 400 * (days / 146097)) (days % 146097) (by omega)
  rw [yearSum_add_cycles _ _ (Nat.le_refl _), yearSum_1970] at h2
  unfold daysToYmd
  -- with the loop's result a variable the two `let (_, _) := …` reduce by eta; on the term itself
  -- the check would run the loop
  generalize yearLoop 401 _ _ = p at *
  exact ⟨p.1, p.2, by omega, h3, by omega, rfl⟩

/-- `days_to_ymd` returns a valid civil date whose day number (by summation) is the input —
    for every natural number of days. -/
theorem daysToYmd_spec (days : Nat) :
    validCivil (daysToYmd days).1 (daysToYmd days).2.1 (daysToYmd days).2.2 = true ∧
    daysFromCivil (daysToYmd days).1 (daysToYmd days).2.1 (daysToYmd days).2.2 = days := by
  obtain ⟨y, r, hy, hr, hs, e⟩ := daysToYmd_eq days
  obtain ⟨m, hm, hm', h1, h2, hl⟩ := monthLoop_monthLens y r hr
  rw [e, hl]
  simp only [validCivil, daysFromCivil_eq, decide_eq_true_eq]
  omega

theorem daysToYmd_year_lt_iff (days Y : Nat) (hY : 1970 ≤ Y) : (daysToYmd days).1 < Y ↔ days < yearSum Y := by
  obtain ⟨y, r, hy, hr, hs, e⟩ := daysToYmd_eq days
  rw [e]
  constructor
  · intro h
    have := yearSum_mono (y := y + 1) (by omega) h
    rw [yearSum_succ y hy] at this
    omega
  · intro h
    rcases Nat.lt_or_ge y Y with c | c
    · exact c
    · have := yearSum_mono hY c
      omega

end Muxide
