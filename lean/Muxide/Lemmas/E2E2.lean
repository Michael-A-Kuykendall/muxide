import Muxide.Props.C01E2EFile
import Muxide.Props.C02
/-
  Muxide.Lemmas.E2E2 — the end-to-end read-back of everything a reader sees, for Props/C01E2E.lean
  (sample payloads), Props/C03E2E.lean (timing), Props/C18E2E.lean (metadata), Props/C19E2E.lean
  (headers and configuration): the composition of the reader's navigation (Lemmas/E2E.lean) with
  C02 / C08 / C16 for the file written by `Writer.finalize` (`e2e_full`, `FullDecoded`): the movie
  the reader returns, as a function of the writer state. In two halves: the bytes parse back to the
  box tree that was written (`written_tree`), and the reader's decoders on that tree return the
  writer's tables (`movie_of_top_full`).
  (Imports Props/C01E2EFile.lean for `fileOf`, `writtenMoov`, `MoovFits`, `offsets_fit`.)
-/
namespace Muxide
open Muxide.Spec Muxide.Props.C08 Muxide.Props.C01E2E

/-- the video sample tables `moovOf` builds for the offsets `o` -/
def vTablesOf (w : Writer) (o : List Nat × List Nat) : Tables :=
  Tables.ofSamples w.vsRev.reverse o.1
    (match w.audio with
     | some _ => 1
     | none => if w.vsRev.reverse ≠ [] then w.vsRev.reverse.length else 0) w.vLastDelta

/-- the audio sample tables `moovOf` builds for the offsets `o` -/
def aTablesOf (w : Writer) (o : List Nat × List Nat) : Tables :=
  Tables.ofSamples w.asRev.reverse o.2 1 w.aLastDelta

theorem moovOf_eq (w : Writer) (width height : Nat) (md : Option Metadata) (vc : VideoConfig)
    (o : List Nat × List Nat) :
    moovOf w width height md vc o =
      bMoov width height (vTablesOf w o) (w.audio.map fun tr => (tr, aTablesOf w o)) vc md := by
  unfold moovOf vTablesOf aTablesOf
  cases w.audio <;> rfl

/-- total media duration (90 kHz ticks) of the video / audio track as written -/
def vDur (w : Writer) : Nat := (durationsOf w.vsRev.reverse w.vLastDelta).sum
def aDur (w : Writer) : Nat := (durationsOf w.asRev.reverse w.aLastDelta).sum

theorem vTablesOf_totalDuration (w : Writer) (o : List Nat × List Nat) :
    (vTablesOf w o).totalDuration = vDur w := rfl
theorem aTablesOf_totalDuration (w : Writer) (o : List Nat × List Nat) :
    (aTablesOf w o).totalDuration = aDur w := rfl

/-- the `mvhd` payload that is written: movie timescale 1000, duration the longer track in ms,
    next track id 3 with an audio track and 2 without -/
def mvhdOf (w : Writer) : Bytes :=
  (bMvhd (max (toMs (vDur w)) (match w.audio with | some _ => toMs (aDur w) | none => 0))
    (if w.audio.isSome then 3 else 2)).pre

/-- the tracks the reader returns, in order -/
def tracksOf (w : Writer) (width height : Nat) (md : Option Metadata) (o : List Nat × List Nat) : List Track :=
  videoTrackOf width height (vTablesOf w o) (vcOf w) (md.bind (·.language)) ::
    (match w.audio with
     | some tr => [audioTrackOf tr (aTablesOf w o) (md.bind (·.language))]
     | none => [])

/-- everything the reader returns for the finished file, in terms of the writer state -/
structure FullDecoded (w : Writer) (width height : Nat) (md : Option Metadata) (fast : Bool) (mv : Movie) : Prop where
  moov : mv.moov = writtenMoov w width height md fast
  mvhd : mv.mvhd = mvhdOf w
  tracks : mv.tracks = tracksOf w width height md (offsetsAt w (mediaStart w width height md fast))
  udta : mv.udta = md.bind bUdta

/-- the moov has the same size in both layouts and for all offsets: `MoovFits` depends on neither -/
theorem moovFits_iff (w : Writer) (width height : Nat) (md : Option Metadata) (fast : Bool) :
    MoovFits w width height md fast ↔ moovSize w width height md (vcOf w) < 2^32 := by
  unfold MoovFits writtenMoov
  rw [moovOf_size _ _ _ _ _ _ (offsetsAt_counts w _).1 (offsetsAt_counts w _).2]

/-- the composition offsets of the video tables are `pts - dts`, and `hasBframes` says one of them
    is non-zero — for every writer satisfying the timing invariant; no bound on the timestamps -/
theorem vTablesOf_cts (w : Writer) (hv : VInv w) (o : List Nat × List Nat) :
    (vTablesOf w o).ctsOffsets = w.vsRev.reverse.map (fun s => (s.pts : Int) - s.dts) ∧
    (vTablesOf w o).hasBframes = w.vsRev.any fun s => decide (s.pts ≠ s.dts) := by
  obtain ⟨hc, hb⟩ := Props.C03.ctts_of_inv w o.1 (vTablesOf w o).samplesPerChunk hv
  exact ⟨hc, Bool.eq_iff_iff.mpr (hb.trans (by simp))⟩

theorem video_track_full (w : Writer) (hr : w.Reachable) (width height : Nat) (md : Option Metadata)
    (fast : Bool) (hok : (w.finalize width height md fast).2.res = .ok) (vc : VideoConfig)
    (lang : Option (List Nat)) (offs : List Nat) (spc : Nat) (hspc : spc < 2^32)
    (hoffs : ∀ x ∈ offs, x < 2^32) (hlen : offs.length < 2^32) :
    decodeTrack (bVideoTrak width height (Tables.ofSamples w.vsRev.reverse offs spc w.vLastDelta) vc lang) =
      some (videoTrackOf width height (Tables.ofSamples w.vsRev.reverse offs spc w.vLastDelta) vc lang) := by
  obtain ⟨d1, -, -, -, z1, -, c1, -, -, -, -⟩ := Props.C16.C16_finalize_values w hr width height md fast hok
  have c1' : w.vsRev.reverse.length < 2^32 := by simpa using c1
  obtain ⟨h1, h4, h2⟩ := Props.C16.track_tables w.vsRev.reverse offs spc w.vLastDelta d1 z1 c1'
  have h6 := Props.C16.C16_stss (keyframesOf w.vsRev.reverse)
    (by
      intro k hk
      have := (keyframesOf_range w.vsRev.reverse k hk).2
      omega)
    (Nat.lt_of_le_of_lt (keyframesOf_length_le _) c1')
  exact decodeTrack_video_full width height (Tables.ofSamples w.vsRev.reverse offs spc w.vLastDelta) vc lang
    h1 h2 (Props.C16.C16_stsc spc offs.length hspc) h4 (Props.C16.C16_stco offs hoffs hlen) h6

theorem audio_track_full (w : Writer) (hr : w.Reachable) (width height : Nat) (md : Option Metadata)
    (fast : Bool) (hok : (w.finalize width height md fast).2.res = .ok) (tr : AudioTrack)
    (hau : w.audio = some tr) (lang : Option (List Nat)) (offs : List Nat) (spc : Nat) (hspc : spc < 2^32)
    (hoffs : ∀ x ∈ offs, x < 2^32) (hlen : offs.length < 2^32) :
    decodeTrack (bAudioTrak tr (Tables.ofSamples w.asRev.reverse offs spc w.aLastDelta) lang) =
      some (audioTrackOf tr (Tables.ofSamples w.asRev.reverse offs spc w.aLastDelta) lang) := by
  obtain ⟨h1, h4⟩ := Props.C16.C16_finalize_audio_tables w hr width height md fast hok (by simp [hau]) offs spc
  exact decodeTrack_audio_full tr (Tables.ofSamples w.asRev.reverse offs spc w.aLastDelta) lang
    h1 (Props.C16.C16_stsc spc offs.length hspc) h4 (Props.C16.C16_stco offs hoffs hlen)

/-- second half: on the tree that was written, the reader's navigation (Lemmas/E2E.lean) finds every
    table, and each decodes to the writer's values because `finalize` has checked that they fit
    their fields (C16, `offsets_fit`) -/
theorem movie_of_top_full (w : Writer) (hr : w.Reachable) (width height : Nat) (md : Option Metadata)
    (fast : Bool) (hok : (w.finalize width height md fast).2.res = .ok) (file : Bytes) (top : List Box)
    (htop : parseFileTree file = some top)
    (hm : child? "moov" top = some (writtenMoov w width height md fast)) :
    ∃ mv, parseMovie file = some mv ∧ FullDecoded w width height md fast mv := by
  obtain ⟨hov, hoa⟩ := offsets_fit w width height md fast hok
  obtain ⟨c1, c2⟩ := finalize_ok_count w width height md fast hok
  obtain ⟨lv, la⟩ := offsetsAt_length_le w (mediaStart w width height md fast)
  have hw : writtenMoov w width height md fast = _ := moovOf_eq w width height md (vcOf w) _
  have hspc : (vTablesOf w (offsetsAt w (mediaStart w width height md fast))).samplesPerChunk < 2^32 := by
    show (match w.audio with | some _ => 1 | none => _) < 2^32
    cases w.audio with
    | some _ => show 1 < 2^32; decide
    | none =>
      simp only [List.length_reverse]
      split <;> omega
  refine ⟨_, parseMovie_of_full file top _ _ _ _ _ _
    (tracksOf w width height md (offsetsAt w (mediaStart w width height md fast))) htop (hw ▸ hm) ?_, ?_⟩
  · refine mapM_cons_some (video_track_full w hr width height md fast hok (vcOf w) _ _ _ hspc hov (by omega)) ?_
    cases hau : w.audio with
    | none => rfl
    | some tr =>
      exact mapM_cons_some (audio_track_full w hr width height md fast hok tr hau _ _ 1 (by omega) hoa
        (by have := c2 (by simp [hau]); omega)) rfl
  · exact ⟨hw.symm, by unfold mvhdOf mvhdArgs; cases w.audio <;> rfl, rfl, rfl⟩

theorem decoded_of_full {w : Writer} {width height : Nat} {md : Option Metadata} {fast : Bool} {mv : Movie}
    (hd : FullDecoded w width height md fast mv) (hok : (w.finalize width height md fast).2.res = .ok) :
    Decoded w width height md fast mv := by
  obtain ⟨c1, c2⟩ := finalize_ok_count w width height md fast hok
  have ht := hd.tracks
  unfold tracksOf at ht
  refine ⟨?_, ⟨_, by rw [ht]; rfl, ?_, rfl, rfl, rfl⟩, fun tr hau => ⟨_, by rw [ht, hau]; rfl, ?_, rfl, rfl, rfl⟩⟩
  · rw [ht]; cases w.audio <;> rfl
  -- the two `stsc` tables, from the number of chunks
  · show stscTable (vTablesOf w _).samplesPerChunk (offsetsAt w _).1.length = stscOf w.vsRev.length (spcOf w)
    rw [(offsetsAt_counts w _).1]
    unfold stscTable stscOf spcOf vTablesOf chunkCounts Tables.ofSamples
    cases w.audio with
    | some tr => simp [Nat.mod_eq_of_lt c1]
    | none => cases h : w.vsRev <;> simp
  · show stscTable 1 (offsetsAt w _).2.length = stscOf w.asRev.length 1
    rw [(offsetsAt_counts w _).2]
    unfold stscTable stscOf chunkCounts
    simp [hau, Nat.mod_eq_of_lt (c2 (by simp [hau]))]

/-- the top-level boxes of the finished file: `ftyp moov mdat` with fast start, else `ftyp mdat moov`,
    the mdat missing when there is neither an audio track nor a video frame -/
def topOf (w : Writer) (width height : Nat) (md : Option Metadata) (fast : Bool) : List Box :=
  if fast then [bFtyp, writtenMoov w width height md fast, mdatBox (payloadOf w)]
  else if w.audio = none ∧ w.vsRev = [] then [bFtyp, writtenMoov w width height md fast]
  else [bFtyp, mdatBox (payloadOf w), writtenMoov w width height md fast]

/-- first half: the file is the serialisation of `topOf` (`finalize_flatten`), and C02 parses a
    serialisation of conforming boxes back to them; the moov conforms when it fits 32 bits, which
    is where `MoovFits` enters -/
theorem written_tree (w : Writer) (width height : Nat) (md : Option Metadata) (fast : Bool)
    (hok : (w.finalize width height md fast).2.res = .ok) (hinv : fast = true → AudioInv w)
    (hfit : MoovFits w width height md fast) :
    parseFileTree (fileOf w width height md fast) = some (topOf w width height md fast) ∧
    child? "moov" (topOf w width height md fast) = some (writtenMoov w width height md fast) := by
  obtain ⟨hp, hfile⟩ := finalize_flatten hok hinv
  obtain ⟨p1, p2, p3⟩ := Props.C02.C02_progressive_parses (writtenMoov w width height md fast) (payloadOf w)
    (moovOf_shape _ _ _ _ _ _) hfit hp
  obtain ⟨m1, m2, m3⟩ := child_moov_top (writtenMoov w width height md fast) (payloadOf w) (moovOf_typ _ _ _ _ _ _)
  unfold fileOf topOf
  rw [hfile]
  cases fast with
  | true => exact ⟨p1, m1⟩
  | false =>
    rw [if_neg Bool.false_ne_true, if_neg Bool.false_ne_true]
    split
    · exact ⟨p3, m3⟩
    · exact ⟨p2, m2⟩

theorem e2e_full (w : Writer) (hr : w.Reachable) (width height : Nat) (md : Option Metadata)
    (fast : Bool) (hok : (w.finalize width height md fast).2.res = .ok)
    (hfit : MoovFits w width height md fast) :
    ∃ mv, parseMovie (fileOf w width height md fast) = some mv ∧ FullDecoded w width height md fast mv := by
  obtain ⟨h1, h2⟩ := written_tree w width height md fast hok (fun _ => hr.inv.noAudio) hfit
  exact movie_of_top_full w hr width height md fast hok _ _ h1 h2

theorem e2e_tracks (w : Writer) (hr : w.Reachable) (width height : Nat) (md : Option Metadata)
    (fast : Bool) (hok : (w.finalize width height md fast).2.res = .ok)
    (hfit : MoovFits w width height md fast) (mv : Movie)
    (hmv : parseMovie (fileOf w width height md fast) = some mv) :
    FullDecoded w width height md fast mv ∧
    (∀ t, mv.tracks[0]? = some t →
      t = videoTrackOf width height (vTablesOf w (offsetsAt w (mediaStart w width height md fast))) (vcOf w)
        (md.bind (·.language))) ∧
    (∀ tr, w.audio = some tr → ∀ t, mv.tracks[1]? = some t →
      t = audioTrackOf tr (aTablesOf w (offsetsAt w (mediaStart w width height md fast)))
        (md.bind (·.language))) := by
  obtain ⟨mv', hmv', hd⟩ := e2e_full w hr width height md fast hok hfit
  obtain rfl : mv' = mv := Option.some.inj (hmv'.symm.trans hmv)
  refine ⟨hd, ?_, ?_⟩
  · intro t ht
    rw [hd.tracks, tracksOf] at ht
    simpa using ht.symm
  · intro tr hau t ht
    rw [hd.tracks, tracksOf, hau] at ht
    simpa using ht.symm

end Muxide
