import Muxide.Lemmas.Frag
import Muxide.Lemmas.Layout
import Muxide.Spec.FragReader
/-
  Muxide.Lemmas.FragRead — reading back a media segment built by `buildSegment`:
  sizes, the moof tree, trun rows, sample slices, the span of the trun durations; the reader on a size field below 8.
-/
namespace Muxide
open Muxide.Spec Box

theorem size_moof_indep (ss : List FSample) (q b off q' b' off' : Nat) :
    (fMoof ss q b off).ser.length = (fMoof ss q' b' off').ser.length := by
  rw [fMoof_ser_length, fMoof_ser_length]

/-- the trun data offset `build_media_segment` computes: the moof's size plus the 8-byte mdat header -/
theorem dataOffset_eq (ss : List FSample) (q b : Nat) (h : 88 + 16 * ss.length < 2^32) :
    (fMoof ss q b 0).ser.length % 2^32 + 8 = 96 + 16 * ss.length := by
  rw [fMoof_ser_length, Nat.mod_eq_of_lt h]; omega

theorem buildSegment_split (ss : List FSample) (q b : Nat) (h : 88 + 16 * ss.length < 2^32) :
    ∃ pre : Bytes, pre.length = 96 + 16 * ss.length ∧ buildSegment ss q b = pre ++ (ss.map (·.data)).flatten := by
  refine ⟨(fMoof ss q b (96 + 16 * ss.length)).ser ++ u32be (8 + (ss.map (·.data.length)).sum) ++ ascii "mdat",
    ?_, by rw [buildSegment, dataOffset_eq ss q b h]; rfl⟩
  have e : (ascii "mdat").length = 4 := rfl
  simp only [List.length_append, fMoof_ser_length, u32be_length, e]; omega

theorem parseFileTree_buildSegment (ss : List FSample) (q b : Nat)
    (h1 : 88 + 16 * ss.length < 2^32) (h2 : 8 + (ss.map (·.data.length)).sum < 2^32) :
    parseFileTree (buildSegment ss q b) =
      some [fMoof ss q b (96 + 16 * ss.length), mdatBox (ss.flatMap (·.data))] := by
  rw [buildSegment_eq, dataOffset_eq ss q b h1]
  exact parseFileTree_sers _ ⟨conforms_of_shape _ (shape_fMoof ..) (by rw [fMoof_size]; exact h1),
    conforms_of_shape _ (shape_mdat _) (by simpa [mdatBox, Box.size, Box.sizes, List.length_flatMap] using h2),
    trivial⟩

/-- the row the reader must see for sample `s` at index `i` -/
def specRow (whole : List FSample) (i : Nat) (s : FSample) : TrunRow :=
  ⟨some (trunDuration whole i % 2^32), some (s.data.length % 2^32),
   some (if s.sync then 0x02000000 else 0x01010000), some (ctsWrap s.pts s.dts)⟩

/-- one trun row with all four optional fields present (flags 0xF01), composition offset signed (version 1) -/
theorem readRows_cons (a b c e n : Nat) (rest : Bytes) :
    readRows 0xF01 1 (n + 1) (u32be a ++ u32be b ++ u32be c ++ u32be e ++ rest) =
      (readRows 0xF01 1 n rest).map fun (rows, r) =>
        (⟨some (a % 2^32), some (b % 2^32), some (c % 2^32), some (toI32 (e % 2^32))⟩ :: rows, r) := by
  simp only [readRows, List.append_assoc, readU32_u32be_mod, if_true, Option.map_some, Option.bind_eq_bind,
    Option.bind_some]
  cases readRows 0xF01 1 n rest <;> rfl

theorem readRows_rows (whole : List FSample) (ps : List (Nat × FSample)) (rest : Bytes) :
    readRows 0xF01 1 ps.length ((ps.flatMap fun p => trunRow whole p.1 p.2) ++ rest) =
      some (ps.map fun p => specRow whole p.1 p.2, rest) := by
  induction ps with
  | nil => rfl
  | cons p ps ih =>
    have hw : (((p.2.pts : Int) - p.2.dts) % 2^32).toNat < 2^32 := by omega
    have hf : (if p.2.sync then 0x02000000 else 0x01010000 : Nat) % 2^32 =
        if p.2.sync then 0x02000000 else 0x01010000 := by split <;> rfl
    rw [List.flatMap_cons, List.length_cons, List.append_assoc, trunRow, ctsWrap, i32be_toI32 _ hw,
      readRows_cons, ih, Option.map_some, List.map_cons, specRow, hf, ctsWrap, Nat.mod_eq_of_lt hw]

/-- The reader's view of a segment.  `parseSegment` is a chain of `Option` binds; each `bind_step` below feeds it
    the value of the next one (a child found by type, a header word read back), in the order of its definition. -/
theorem parseSegment_buildSegment (ss : List FSample) (q b : Nat)
    (h1 : 96 + 16 * ss.length < 2^31) (h2 : 8 + (ss.map (·.data.length)).sum < 2^32) (hb : b < 2^64) :
    parseSegment (buildSegment ss q b) =
      some ⟨[fMoof ss q b (96 + 16 * ss.length), mdatBox (ss.flatMap (·.data))], q % 2^32, 0x20000, 1, b,
        some (96 + 16 * ss.length : Nat), (List.zip (List.range ss.length) ss).map fun p => specRow ss p.1 p.2⟩ := by
  have hrows := readRows_rows ss ((List.range ss.length).zip ss) []
  rw [List.length_zip, List.length_range, Nat.min_self, List.append_nil] at hrows
  have hpre : (fTrun ss (96 + 16 * ss.length)).pre = u32be 0x01000F01 ++ (u32be ss.length ++
      (u32be (96 + 16 * ss.length) ++ ((List.range ss.length).zip ss).flatMap fun p => trunRow ss p.1 p.2)) := by
    simp [fTrun, leaf, Box.pre]
  unfold parseSegment
  refine bind_step (parseFileTree_buildSegment ss q b (by omega) h2) ?_
  refine bind_step (child?_cons_pos _ rfl) ?_
  -- mfhd: version/flags, sequence number
  refine bind_step (child?_cons_pos _ rfl) ?_
  refine bind_step (fullBox_u32be 0 (by decide) _) ?_
  refine bind_step (readU32_u32be_mod q []) ?_
  -- traf / tfhd: flags (default-base-is-moof), track id
  refine bind_step (Eq.trans (child?_cons_neg _ (by decide : ascii "mfhd" ≠ ascii "traf"))
    (child?_cons_pos _ rfl)) ?_
  refine bind_step (child?_cons_pos _ rfl) ?_
  refine bind_step (fullBox_u32be 0x20000 (by decide) _) ?_
  refine bind_step (readU32_u32be 1 (by decide) []) ?_
  -- tfdt: version 1, 64-bit base decode time, nothing after it
  refine bind_step (Eq.trans (child?_cons_neg _ (by decide : ascii "tfhd" ≠ ascii "tfdt"))
    (child?_cons_pos _ rfl)) ?_
  refine bind_step (fullBox_u32be 0x01000000 (by decide) _) ?_
  refine (if_pos (by decide)).trans ?_
  refine bind_step (readU64_u64be b hb []) ?_
  refine (if_neg (by decide)).trans ?_
  -- trun: version 1, flags 0xF01, count, data offset (present), no first-sample flags, the rows, nothing after
  refine bind_step (Eq.trans (child?_cons_neg _ (by decide : ascii "tfhd" ≠ ascii "trun"))
    (Eq.trans (child?_cons_neg _ (by decide : ascii "tfdt" ≠ ascii "trun")) (child?_cons_pos _ rfl))) ?_
  refine bind_step ((congrArg fullBox hpre).trans (fullBox_u32be 0x01000F01 (by decide) _)) ?_
  refine bind_step (readU32_u32be _ (by omega) _) ?_
  refine (if_pos (by decide)).trans ?_
  refine bind_step (congrArg _ (readU32_u32be _ (by omega) _)) ?_
  refine (if_neg (by decide)).trans ?_
  refine bind_step rfl ?_
  refine bind_step hrows ?_
  refine (if_neg (by simp)).trans ?_
  show some _ = some _
  rw [toI32, if_pos h1]

theorem go_slices (pre post : Bytes) (xs : List Bytes) :
    Segment.sampleBytes.go (pre ++ xs.flatten ++ post) (xs.map List.length) pre.length = xs := by
  induction xs generalizing pre with
  | nil => simp [Segment.sampleBytes.go]
  | cons x xs ih =>
    simp only [List.map_cons, Segment.sampleBytes.go, List.flatten_cons]
    congr 1
    · simp [slice]
    · have := ih (pre ++ x)
      simpa using this

theorem specRow_size {ss : List FSample} (h2 : 8 + (ss.map (·.data.length)).sum < 2^32) (whole : List FSample)
    (i : Nat) {s : FSample} (hs : s ∈ ss) : (specRow whole i s).size = some s.data.length := by
  have := le_sum_of_mem _ _ (List.mem_map_of_mem (f := fun s : FSample => s.data.length) hs)
  simp only [specRow, Nat.mod_eq_of_lt (show s.data.length < 2^32 by omega)]

theorem sampleBytes_buildSegment (ss : List FSample) (q b : Nat)
    (h1 : 96 + 16 * ss.length < 2^31) (h2 : 8 + (ss.map (·.data.length)).sum < 2^32) (hb : b < 2^64)
    {seg : Segment} (hp : parseSegment (buildSegment ss q b) = some seg) :
    seg.sampleBytes (buildSegment ss q b) = some (ss.map (·.data)) := by
  have hsz : ((List.range ss.length).zip ss).map (fun p => (specRow ss p.1 p.2).size.getD 0) =
      (ss.map (·.data)).map List.length := by
    calc _ = (((List.range ss.length).zip ss).map Prod.snd).map (·.data.length) := by
          rw [List.map_map]
          exact List.map_congr_left fun p hp => by simp [specRow_size h2 ss p.1 (List.of_mem_zip hp).2]
      _ = _ := by rw [List.map_snd_zip (by simp), List.map_map]; rfl
  obtain ⟨pre, hpre, hseg⟩ := buildSegment_split ss q b (by omega)
  have hgo := go_slices pre [] (ss.map (·.data))
  rw [List.append_nil, ← hseg, hpre] at hgo
  rw [parseSegment_buildSegment ss q b h1 h2 hb, Option.some.injEq] at hp
  subst hp
  unfold Segment.sampleBytes
  simp only [topLayout, List.map_map]
  rw [List.find?_cons_of_pos (by exact decide_eq_true rfl)]
  simp only [Option.map_some, Function.comp_def, hsz, Int.toNat_natCast, Nat.zero_add]
  rw [if_pos ⟨trivial, Int.natCast_nonneg _⟩, hgo, if_pos]
  rw [hseg, List.length_append, List.length_flatten, hpre]
  exact Nat.le_refl _

def lastDtsOf (ss : List FSample) : Nat := (ss.getLast?.map (·.dts)).getD 0

/-- telescoping: the increments of a non-decreasing sequence add up to its total rise -/
theorem sum_increments (d : Nat → Nat) (m : Nat) (h : ∀ i < m, d i ≤ d (i + 1)) :
    d 0 + ((List.range m).map fun i => d (i + 1) - d i).sum = d m := by
  induction m with
  | zero => rfl
  | succ m ih =>
    have := h m (Nat.lt_succ_self m)
    rw [List.range_succ, List.map_append, List.sum_append, ← Nat.add_assoc, ih fun i hi => h i (Nat.lt_succ_of_lt hi),
      List.map_singleton, List.sum_singleton]
    omega

/-- the durations of all samples but the last span the queue: below the last index `trunDuration` is the gap to the
    next decode time, and the decode times do not decrease -/
theorem trun_span (ss : List FSample) (hs : ss.Pairwise (fun a b => a.dts ≤ b.dts)) :
    firstDts ss + ((List.range (ss.length - 1)).map (trunDuration ss)).sum = lastDtsOf ss := by
  let d (j : Nat) : Nat := (ss[j]?.map (·.dts)).getD 0
  have hd : ∀ i ∈ List.range (ss.length - 1), trunDuration ss i = d (i + 1) - d i := fun i hi => by
    have := List.mem_range.mp hi
    simp only [trunDuration, show i + 1 < ss.length by omega, if_true, d]
  have hmono : ∀ i < ss.length - 1, d i ≤ d (i + 1) := fun i hi => by
    have h2 : i + 1 < ss.length := by omega
    have h1 : i < ss.length := Nat.lt_of_succ_lt h2
    simp only [d, List.getElem?_eq_getElem h1, List.getElem?_eq_getElem h2, Option.map_some, Option.getD_some]
    exact List.pairwise_iff_getElem.mp hs i (i + 1) h1 h2 (Nat.lt_succ_self i)
  rw [List.map_congr_left hd, firstDts, lastDtsOf, List.head?_eq_getElem?, List.getLast?_eq_getElem?]
  exact sum_increments d _ hmono

/-! ### a size field below 8 (the mdat size field can wrap to one): the reader rejects the sequence -/

theorem parseBox_small_size (fuel : Nat) (n : Nat) (h : n % 2^32 < 8) (rest : Bytes) :
    parseBox isoSchema fuel (u32be n ++ rest) = none := by
  cases fuel with
  | zero => rfl
  | succ fuel =>
    simp only [parseBox]
    rw [readU32_u32be_mod]
    simp only
    rw [if_pos h]

theorem parseBoxes_small_size (fuel : Nat) (n : Nat) (h : n % 2^32 < 8) (rest : Bytes) :
    parseBoxes isoSchema fuel (u32be n ++ rest) = none := by
  cases fuel with
  | zero => rfl
  | succ fuel =>
    simp only [parseBoxes, parseBox_small_size _ _ h, List.append_ne_nil_of_left_ne_nil (u32be_ne_nil n) rest, if_false]

/-- a conforming box followed by a size word below 8 is not a box sequence -/
theorem parseFileTree_small_size (b : Box) (hb : Conforms isoSchema b) (n : Nat) (h : n % 2^32 < 8) (rest : Bytes) :
    parseFileTree (b.ser ++ (u32be n ++ rest)) = none := by
  have hd : depth b < 2 * maxDepth + (b.ser ++ (u32be n ++ rest)).length + 1 := by
    have := depth_le_size b
    rw [List.length_append, ser_len b hb]; omega
  rw [parseFileTree, parseBoxes, if_neg (List.append_ne_nil_of_left_ne_nil (ser_ne_nil b) _), parseBox_ser b _ _ hb hd]
  simp only [parseBoxes_small_size _ _ h]

end Muxide
