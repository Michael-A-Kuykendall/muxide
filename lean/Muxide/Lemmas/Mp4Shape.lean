import Muxide.Lemmas.Box
import Muxide.Model.Frag
/-
  Muxide.Lemmas.Mp4Shape — every box builder of the progressive and fragmented writers yields a
  tree of the shape `isoSchema` expects (4-byte types, leaves are schema leaves, containers have
  exactly the schema's fixed-prefix length). What `isoSchema` says of a box type is a finite table;
  it is evaluated once, for all the types the writers use, and each builder then only names its
  entries.
-/
namespace Muxide
open Muxide.Spec Box

/-- the box types the writers emit without children -/
def leafTypes : List String :=
  ["ftyp", "mvhd", "tkhd", "mdhd", "hdlr", "vmhd", "smhd", "url ", "stts", "ctts", "stsc", "stsz", "stco",
   "stss", "avcC", "hvcC", "av1C", "vpcC", "esds", "dOps", "data", "mdat", "trex", "mfhd", "tfhd", "tfdt", "trun"]

/-- the container types they emit, each with the length of its fixed prefix -/
def nodeTypes : List (String × Nat) :=
  [("moov", 0), ("trak", 0), ("mdia", 0), ("minf", 0), ("dinf", 0), ("stbl", 0), ("udta", 0), ("ilst", 0),
   ("mvex", 0), ("moof", 0), ("traf", 0), ("meta", 4), ("dref", 8), ("stsd", 8), ("avc1", 78), ("hvc1", 78),
   ("av01", 78), ("vp09", 78), ("mp4a", 28), ("Opus", 28)]

theorem isoSchema_leafTypes : ∀ t ∈ leafTypes, (ascii t).length = 4 ∧ isoSchema (ascii t) = none := by
  decide +kernel

theorem isoSchema_nodeTypes : ∀ e ∈ nodeTypes, (ascii e.1).length = 4 ∧ isoSchema (ascii e.1) = some e.2 := by
  decide +kernel

/-- the two item types of the `ilst`, which are not ASCII -/
theorem isoSchema_itemTypes : ∀ t ∈ [namType, dayType], t.length = 4 ∧ isoSchema t = some 0 := by
  decide +kernel

theorem isoLeaf {t : String} (p : Bytes) (h : t ∈ leafTypes := by repeat constructor) :
    Shape isoSchema (leaf t p) :=
  shape_leaf t p (isoSchema_leafTypes t h).1 (isoSchema_leafTypes t h).2

theorem isoNode {t : String} {n : Nat} {pre : Bytes} {kids : List Box} (hp : pre.length = n)
    (hk : ShapeL isoSchema kids) (h : (t, n) ∈ nodeTypes := by repeat constructor) :
    Shape isoSchema (node t pre kids) :=
  shape_node t pre kids n (isoSchema_nodeTypes _ h).1 (isoSchema_nodeTypes _ h).2 hp hk

theorem visualEntryPrefix_length (w h : Nat) : (visualEntryPrefix w h).length = 78 := by
  simp [visualEntryPrefix]
theorem audioEntryPrefix_length (c r : Nat) : (audioEntryPrefix c r).length = 28 := by
  simp [audioEntryPrefix]
/-- the fragmented writer spells the same 78 bytes with `zeros 12` for the three pre_defined words -/
theorem fEntryPrefix_eq (c : FragConfig) : fEntryPrefix c = visualEntryPrefix c.width c.height := rfl

theorem fEntryPrefix_length (c : FragConfig) : (fEntryPrefix c).length = 78 :=
  fEntryPrefix_eq c ▸ visualEntryPrefix_length _ _

/-- the payload of `bStsc`, which is a leaf of type `stsc` whatever its arguments -/
def stscPayload (spc n : Nat) : Bytes :=
  if n % 2^32 = 0 ∨ spc = 0 then u32be 0 ++ u32be 0
  else u32be 0 ++ u32be 1 ++ u32be 1 ++ u32be spc ++ u32be 1

theorem bStsc_eq (spc n : Nat) : bStsc spc n = leaf "stsc" (stscPayload spc n) := by
  unfold bStsc stscPayload; split <;> rfl

theorem shape_bDinf : Shape isoSchema bDinf :=
  isoNode rfl ⟨isoNode (n := 8) rfl ⟨isoLeaf _, trivial⟩, trivial⟩

theorem shape_bVideoEntry (w h : Nat) (vc : VideoConfig) : Shape isoSchema (bVideoEntry w h vc) := by
  cases vc <;> exact isoNode (visualEntryPrefix_length w h) ⟨isoLeaf _, trivial⟩

theorem bAudioEntry_eq (a : AudioTrack) : bAudioEntry a = if a.codec = .opus then bOpus a else bMp4a a := by
  unfold bAudioEntry
  cases a.codec <;> rfl

theorem shape_bAudioEntry (a : AudioTrack) : Shape isoSchema (bAudioEntry a) := by
  rw [bAudioEntry_eq]; split <;> exact isoNode (audioEntryPrefix_length _ _) ⟨isoLeaf _, trivial⟩

theorem shape_bStsd (e : Box) (h : Shape isoSchema e) : Shape isoSchema (bStsd e) :=
  isoNode (n := 8) rfl ⟨h, trivial⟩

theorem shape_bStsc (a b : Nat) : Shape isoSchema (bStsc a b) := bStsc_eq a b ▸ isoLeaf _

theorem shape_bVideoStbl (w h : Nat) (t : Tables) (vc : VideoConfig) : Shape isoSchema (bVideoStbl w h t vc) := by
  refine isoNode rfl ?_
  simp only [shapeL_append]
  refine ⟨⟨⟨⟨shape_bStsd _ (shape_bVideoEntry w h vc), isoLeaf _, trivial⟩, ?_⟩,
    ⟨shape_bStsc _ _, isoLeaf _, isoLeaf _, trivial⟩⟩, ?_⟩
  · split
    · exact ⟨isoLeaf _, trivial⟩
    · trivial
  · split
    · exact ⟨isoLeaf _, trivial⟩
    · trivial

theorem shape_bAudioStbl (a : AudioTrack) (t : Tables) : Shape isoSchema (bAudioStbl a t) :=
  isoNode rfl ⟨shape_bStsd _ (shape_bAudioEntry a), isoLeaf _, shape_bStsc _ _, isoLeaf _, isoLeaf _, trivial⟩

/-- `trak > (tkhd, mdia > (mdhd, hdlr, minf > (media header, dinf, stbl)))`, the tree of every track
    the writers build -/
theorem shape_trak {tkhd mdhd hdlr mh dinf stbl : Box} (h1 : Shape isoSchema tkhd) (h2 : Shape isoSchema mdhd)
    (h3 : Shape isoSchema hdlr) (h4 : Shape isoSchema mh) (h5 : Shape isoSchema dinf)
    (h6 : Shape isoSchema stbl) :
    Shape isoSchema (node "trak" [] [tkhd, node "mdia" [] [mdhd, hdlr, node "minf" [] [mh, dinf, stbl]]]) :=
  isoNode rfl ⟨h1, isoNode rfl ⟨h2, h3, isoNode rfl ⟨h4, h5, h6, trivial⟩, trivial⟩, trivial⟩

theorem shape_bVideoTrak (w h : Nat) (t : Tables) (vc : VideoConfig) (l : Option (List Nat)) :
    Shape isoSchema (bVideoTrak w h t vc l) :=
  shape_trak (isoLeaf _) (isoLeaf _) (isoLeaf _) (isoLeaf _) shape_bDinf (shape_bVideoStbl w h t vc)

theorem shape_bAudioTrak (a : AudioTrack) (t : Tables) (l : Option (List Nat)) :
    Shape isoSchema (bAudioTrak a t l) :=
  shape_trak (isoLeaf _) (isoLeaf _) (isoLeaf _) (isoLeaf _) shape_bDinf (shape_bAudioStbl a t)

theorem shape_bIlstItem {t : Bytes} (v : Bytes) (h : t ∈ [namType, dayType] := by simp) :
    Shape isoSchema (bIlstItem t v) := by
  refine ⟨(isoSchema_itemTypes t h).1, ?_, isoLeaf _, trivial⟩
  rw [(isoSchema_itemTypes t h).2]; rfl

/-- `bUdta`, when it returns a box: `udta > meta > (hdlr, ilst > items)` -/
theorem bUdta_eq_some {m : Metadata} {u : Box} (h : bUdta m = some u) :
    u = node "udta" [] [node "meta" (zeros 4) [bMetaHdlr, node "ilst" []
      ((match m.title with | some t => [bIlstItem namType t] | none => []) ++
       (match m.ctime with | some c => [bIlstItem dayType (formatTimestamp c)] | none => []))]] := by
  simp only [bUdta, Option.ite_none_left_eq_some, Option.some.injEq] at h
  exact h.2.symm

theorem bind_bUdta_typ (md : Option Metadata) (u : Box) (h : md.bind bUdta = some u) : u.typ = ascii "udta" := by
  obtain ⟨m, -, hm⟩ := Option.bind_eq_some_iff.mp h
  rw [bUdta_eq_some hm]
  rfl

theorem shape_bUdta (m : Metadata) (u : Box) (h : bUdta m = some u) : Shape isoSchema u := by
  rw [bUdta_eq_some h]
  refine isoNode rfl ⟨isoNode (n := 4) (by simp) ⟨isoLeaf _, isoNode rfl ?_, trivial⟩, trivial⟩
  rw [shapeL_append]
  constructor
  · split
    · exact ⟨shape_bIlstItem _, trivial⟩
    · trivial
  · split
    · exact ⟨shape_bIlstItem _, trivial⟩
    · trivial

theorem shape_bMoov (w h : Nat) (vt : Tables) (audio : Option (AudioTrack × Tables)) (vc : VideoConfig)
    (md : Option Metadata) : Shape isoSchema (bMoov w h vt audio vc md) := by
  refine isoNode rfl ?_
  simp only [shapeL_append]
  refine ⟨⟨⟨isoLeaf _, shape_bVideoTrak _ _ _ _ _, trivial⟩, ?_⟩, ?_⟩
  · split
    · exact ⟨shape_bAudioTrak _ _ _, trivial⟩
    · trivial
  · split
    · next u hu =>
      obtain ⟨m, -, hm⟩ := Option.bind_eq_some_iff.mp hu
      exact ⟨shape_bUdta m u hm, trivial⟩
    · trivial

theorem shape_fSampleEntry (c : FragConfig) : Shape isoSchema (fSampleEntry c) := by
  unfold fSampleEntry
  split
  · exact isoNode (fEntryPrefix_length c) ⟨isoLeaf _, trivial⟩
  split
  · exact isoNode (fEntryPrefix_length c) ⟨isoLeaf _, trivial⟩
  split <;> exact isoNode (fEntryPrefix_length c) ⟨isoLeaf _, trivial⟩

theorem shape_fStbl (c : FragConfig) : Shape isoSchema (fStbl c) :=
  isoNode rfl ⟨shape_bStsd _ (shape_fSampleEntry c), isoLeaf _, isoLeaf _, isoLeaf _, isoLeaf _, trivial⟩

theorem shape_fDinf : Shape isoSchema fDinf :=
  isoNode rfl ⟨isoNode (n := 8) rfl ⟨isoLeaf _, trivial⟩, trivial⟩

theorem shape_fTrak (c : FragConfig) : Shape isoSchema (fTrak c) :=
  shape_trak (isoLeaf _) (isoLeaf _) (isoLeaf _) (isoLeaf _) shape_fDinf (shape_fStbl c)

theorem shape_fMoov (c : FragConfig) : Shape isoSchema (fMoov c) :=
  isoNode rfl ⟨isoLeaf _, isoNode rfl ⟨isoLeaf _, trivial⟩, shape_fTrak c, trivial⟩

theorem shape_fTraf (s : List FSample) (b o : Nat) :
    Shape isoSchema (node "traf" [] [fTfhd, fTfdt b, fTrun s o]) :=
  isoNode rfl ⟨isoLeaf _, isoLeaf _, isoLeaf _, trivial⟩

theorem shape_fMoof (s : List FSample) (q b o : Nat) : Shape isoSchema (fMoof s q b o) :=
  isoNode rfl ⟨isoLeaf _, shape_fTraf s b o, trivial⟩

theorem shape_mdat (p : Bytes) : Shape isoSchema (Box.mk (ascii "mdat") p []) := isoLeaf (t := "mdat") p

end Muxide
