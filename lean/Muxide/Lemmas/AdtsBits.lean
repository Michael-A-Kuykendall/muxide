/-
  Bit-field identities behind the ADTS header fields, in the shape the translated source (Generated/Adts.lean) has
  them: shifts as multiplication / division by powers of two with the wrap of the operand's width, masks as `&&&`.
  Masks are remainders; fields shifted past each other do not overlap, so `|||` adds them.
-/
namespace Muxide.Lemmas.AdtsBits

theorem and_3 (n : Nat) : n &&& 3 = n % 4 := Nat.and_two_pow_sub_one_eq_mod n 2
theorem and_15 (n : Nat) : n &&& 15 = n % 16 := Nat.and_two_pow_sub_one_eq_mod n 4

theorem shl_or {y k : Nat} (h : y < 2 ^ k) (x : Nat) : x * 2 ^ k ||| y = x * 2 ^ k + y := by
  rw [← Nat.shiftLeft_eq, Nat.shiftLeft_add_eq_or_of_lt h]

theorem sync_bits (a : Nat) (ha : a < 256) (b : Nat) (hb : b < 256) :
    ((((a % 2 ^ 16) * 2 ^ 4 % 2 ^ 16) ||| ((b % 2 ^ 16) / 2 ^ 4)) ≠ 4095 ↔ ¬ (a = 0xFF ∧ b / 16 = 0xF)) := by
  rw [Nat.mod_eq_of_lt (show a < 2 ^ 16 by omega), Nat.mod_eq_of_lt (show a * 2 ^ 4 < 2 ^ 16 by omega),
    Nat.mod_eq_of_lt (show b < 2 ^ 16 by omega), shl_or (show b / 2 ^ 4 < 2 ^ 4 by omega)]
  omega

theorem chan_bits : ∀ x, x < 2 → ∀ y, y < 4 → ((x * 2 ^ 2 % 2 ^ 8) ||| y) = x * 4 + y := by
  intro x hx y hy
  rw [Nat.mod_eq_of_lt (show x * 2 ^ 2 < 2 ^ 8 by omega), shl_or hy]

theorem len_bits (x : Nat) (hx : x < 4) (y : Nat) (hy : y < 256) (z : Nat) (hz : z < 256) :
    ((((x % 2 ^ 64) * 2 ^ 11 % 2 ^ 64) ||| ((y % 2 ^ 64) * 2 ^ 3 % 2 ^ 64)) ||| (((z &&& 224) % 2 ^ 64) / 2 ^ 5)) =
      x * 2 ^ 11 + y * 2 ^ 3 + z / 32 := by
  have hz' : ((z &&& 224) % 2 ^ 64) / 2 ^ 5 = z / 32 := by
    rw [Nat.mod_eq_of_lt (Nat.lt_of_le_of_lt Nat.and_le_left (by omega)), Nat.and_div_two_pow,
      show 224 / 2 ^ 5 = 2 ^ 3 - 1 from rfl, Nat.and_two_pow_sub_one_eq_mod]
    omega
  rw [hz', Nat.mod_eq_of_lt (show x < 2 ^ 64 by omega), Nat.mod_eq_of_lt (show x * 2 ^ 11 < 2 ^ 64 by omega),
    Nat.mod_eq_of_lt (show y < 2 ^ 64 by omega), Nat.mod_eq_of_lt (show y * 2 ^ 3 < 2 ^ 64 by omega),
    shl_or (show y * 2 ^ 3 < 2 ^ 11 by omega), show x * 2 ^ 11 + y * 2 ^ 3 = (x * 2 ^ 8 + y) * 2 ^ 3 by omega,
    shl_or (show z / 32 < 2 ^ 3 by omega)]

end Muxide.Lemmas.AdtsBits
