import Muxide.Model.Frag
/-
  Muxide.Lemmas.Frag — operations / runs of the fragmented muxer.  `step_effect` is the normal form of one
  step (quiet, accept, emit); `run_induction` carries an invariant along a run, one case per kind of step.
  The init-segment cache is handled apart: no operation but `init` looks at it (`stepF_setCache`).
-/
namespace Muxide

inductive FOp where
  | write (pts dts : Nat) (data : Bytes) (sync : Bool)
  | flush | ready | dur | init
deriving Repr, DecidableEq

def stepF (f : Frag) : FOp → Frag × FReply
  | .write p d b s => f.write p d b s
  | .flush => f.flush
  | .ready => (f, f.ready)
  | .dur => (f, f.durMs)
  | .init => f.init

/-- run a list of operations; replies in order -/
def runF (f : Frag) : List FOp → Frag × List FReply
  | [] => (f, [])
  | op :: ops => ((runF (stepF f op).1 ops).1, (stepF f op).2 :: (runF (stepF f op).1 ops).2)

/-- the state in which each operation of the run is executed -/
def preStates (f : Frag) : List FOp → List Frag
  | [] => []
  | op :: ops => f :: preStates (stepF f op).1 ops

def acceptedOne : FOp × FReply → Option FSample
  | (.write p d b s, .ok) => some ⟨p, d, b, s⟩
  | _ => none

def emittedOne : Frag × FOp × FReply → Option (List FSample)
  | (f, .flush, .seg _) => some f.samples
  | _ => none

def segmentOne : FOp × FReply → Option Bytes
  | (.flush, .seg b) => some b
  | _ => none

/-- the samples of the writes that were answered `.ok`, in order -/
def accepted (f : Frag) (ops : List FOp) : List FSample :=
  (ops.zip (runF f ops).2).filterMap acceptedOne

/-- the queue contents at each successful flush, in order -/
def emitted (f : Frag) (ops : List FOp) : List (List FSample) :=
  ((preStates f ops).zip (ops.zip (runF f ops).2)).filterMap emittedOne

/-- the media segments returned by the flushes, in order -/
def segments (f : Frag) (ops : List FOp) : List Bytes :=
  (ops.zip (runF f ops).2).filterMap segmentOne

@[simp] theorem runF_nil (f : Frag) : runF f [] = (f, []) := rfl
theorem runF_cons (f : Frag) (op : FOp) (ops : List FOp) :
    runF f (op :: ops) = ((runF (stepF f op).1 ops).1, (stepF f op).2 :: (runF (stepF f op).1 ops).2) := rfl

@[simp] theorem runF_length (f : Frag) (ops : List FOp) : (runF f ops).2.length = ops.length := by
  induction ops generalizing f with
  | nil => rfl
  | cons op ops ih => simp [runF_cons, ih]

@[simp] theorem accepted_nil (f : Frag) : accepted f [] = [] := rfl
@[simp] theorem emitted_nil (f : Frag) : emitted f [] = [] := rfl
@[simp] theorem segments_nil (f : Frag) : segments f [] = [] := rfl

theorem filterMap_cons_toList {α β} (g : α → Option β) (a : α) (l : List α) :
    (a :: l).filterMap g = (g a).toList ++ l.filterMap g := by
  rw [List.filterMap_cons]; cases g a <;> rfl

theorem accepted_cons (f : Frag) (op : FOp) (ops : List FOp) :
    accepted f (op :: ops) = (acceptedOne (op, (stepF f op).2)).toList ++ accepted (stepF f op).1 ops :=
  filterMap_cons_toList ..

theorem emitted_cons (f : Frag) (op : FOp) (ops : List FOp) :
    emitted f (op :: ops) = (emittedOne (f, op, (stepF f op).2)).toList ++ emitted (stepF f op).1 ops :=
  filterMap_cons_toList ..

theorem segments_cons (f : Frag) (op : FOp) (ops : List FOp) :
    segments f (op :: ops) = (segmentOne (op, (stepF f op).2)).toList ++ segments (stepF f op).1 ops :=
  filterMap_cons_toList ..

/-- the rejection condition of `write` as a proposition -/
def Rejects (f : Frag) (dts : Nat) : Prop := ∃ l, f.lastDts = some l ∧ dts < l

theorem write_reject (f : Frag) (p d : Nat) (b : Bytes) (s : Bool) (h : Rejects f d) :
    f.write p d b s = (f, .errNonMonotonic) := by
  obtain ⟨l, hl, hd⟩ := h
  simp [Frag.write, hl, hd]

theorem write_accept (f : Frag) (p d : Nat) (b : Bytes) (s : Bool) (h : ¬ Rejects f d) :
    f.write p d b s = ({ f with lastDts := some d, samples := f.samples ++ [⟨p, d, b, s⟩] }, .ok) := by
  unfold Frag.write
  cases hl : f.lastDts with
  | none => simp
  | some l => simp [show ¬ d < l from fun hd => h ⟨l, hl, hd⟩]

theorem flush_nil (f : Frag) (h : f.samples = []) : f.flush = (f, .none) := by
  simp [Frag.flush, h]

/-- base decode time the model uses for a queue: the first sample's dts -/
def firstDts (ss : List FSample) : Nat := (ss.head?.map (·.dts)).getD 0

theorem flush_ne_nil (f : Frag) (h : f.samples ≠ []) :
    f.flush = ({ f with samples := [], seq := (f.seq + 1) % 2^32, base := firstDts f.samples },
      .seg (buildSegment f.samples f.seq (firstDts f.samples))) := by
  unfold Frag.flush firstDts
  split
  · contradiction
  · next hs => rw [hs]; rfl

/-- two states that agree on everything except possibly `initCache` -/
def Frag.sameExceptCache (f g : Frag) : Prop :=
  f.cfg = g.cfg ∧ f.samples = g.samples ∧ f.seq = g.seq ∧ f.base = g.base ∧ f.lastDts = g.lastDts

theorem sameExceptCache_iff (f g : Frag) :
    f.sameExceptCache g ↔ { f with initCache := none } = { g with initCache := none } := by
  obtain ⟨c, ss, q, b, ic, l⟩ := f
  obtain ⟨c', ss', q', b', ic', l'⟩ := g
  simp [Frag.sameExceptCache]

theorem sameExceptCache_refl (f : Frag) : f.sameExceptCache f := (sameExceptCache_iff f f).2 rfl

theorem Frag.sameExceptCache.symm {f g : Frag} (h : f.sameExceptCache g) : g.sameExceptCache f :=
  (sameExceptCache_iff g f).2 ((sameExceptCache_iff f g).1 h).symm

theorem Frag.sameExceptCache.trans {f g k : Frag} (h : f.sameExceptCache g) (h' : g.sameExceptCache k) :
    f.sameExceptCache k :=
  (sameExceptCache_iff f k).2 (((sameExceptCache_iff f g).1 h).trans ((sameExceptCache_iff g k).1 h'))

theorem init_sameExceptCache (f : Frag) : f.sameExceptCache f.init.1 := by
  unfold Frag.init; split <;> exact sameExceptCache_refl _

/-- The normal form of a step, as the run observes it: either nothing is accepted or emitted and at most the
    cache changes (a rejected write, an empty flush, a query, `init`); or a write is accepted and queued, its dts
    not below the previous `lastDts`; or a flush emits the whole non-empty queue as
    `buildSegment queue seq (firstDts queue)` and advances the counter. -/
theorem step_effect (f : Frag) (op : FOp) :
    (acceptedOne (op, (stepF f op).2) = none ∧ emittedOne (f, op, (stepF f op).2) = none ∧
      segmentOne (op, (stepF f op).2) = none ∧ ∃ c, (stepF f op).1 = { f with initCache := c }) ∨
    (∃ a, acceptedOne (op, (stepF f op).2) = some a ∧ emittedOne (f, op, (stepF f op).2) = none ∧
      segmentOne (op, (stepF f op).2) = none ∧ (∀ l, f.lastDts = some l → l ≤ a.dts) ∧
      (stepF f op).1 = { f with lastDts := some a.dts, samples := f.samples ++ [a] }) ∨
    (acceptedOne (op, (stepF f op).2) = none ∧ emittedOne (f, op, (stepF f op).2) = some f.samples ∧
      segmentOne (op, (stepF f op).2) = some (buildSegment f.samples f.seq (firstDts f.samples)) ∧
      f.samples ≠ [] ∧
      (stepF f op).1 = { f with samples := [], seq := (f.seq + 1) % 2^32, base := firstDts f.samples }) := by
  cases op with
  | write p d b s =>
    by_cases h : Rejects f d
    · rw [stepF, write_reject _ _ _ _ _ h]
      exact .inl ⟨rfl, rfl, rfl, _, rfl⟩
    · rw [stepF, write_accept _ _ _ _ _ h]
      exact .inr (.inl ⟨⟨p, d, b, s⟩, rfl, rfl, rfl, fun l hl => Nat.le_of_not_lt fun hd => h ⟨l, hl, hd⟩, rfl⟩)
  | flush =>
    by_cases hs : f.samples = []
    · rw [stepF, flush_nil f hs]; exact .inl ⟨rfl, rfl, rfl, _, rfl⟩
    · rw [stepF, flush_ne_nil f hs]; exact .inr (.inr ⟨rfl, rfl, rfl, hs, rfl⟩)
  | ready => exact .inl ⟨rfl, rfl, rfl, _, rfl⟩
  | dur => exact .inl ⟨rfl, rfl, rfl, _, rfl⟩
  | init => exact .inl ⟨rfl, rfl, rfl, f.init.1.initCache, by rw [stepF]; unfold Frag.init; split <;> rfl⟩

/-- Invariants of a run.  `P as es bs g` relates what has been accepted, emitted and returned so far with the
    state reached: it holds at the start, and is kept by each of the three kinds of step of `step_effect`. -/
theorem run_induction (f : Frag) {P : List FSample → List (List FSample) → List Bytes → Frag → Prop}
    (start : P [] [] [] f)
    (quiet : ∀ {as es bs g} c, P as es bs g → P as es bs { g with initCache := c })
    (accept : ∀ {as es bs g} a, P as es bs g → (∀ l, g.lastDts = some l → l ≤ a.dts) →
      P (as ++ [a]) es bs { g with lastDts := some a.dts, samples := g.samples ++ [a] })
    (emit : ∀ {as es bs g}, P as es bs g → g.samples ≠ [] →
      P as (es ++ [g.samples]) (bs ++ [buildSegment g.samples g.seq (firstDts g.samples)])
        { g with samples := [], seq := (g.seq + 1) % 2^32, base := firstDts g.samples })
    (ops : List FOp) : P (accepted f ops) (emitted f ops) (segments f ops) (runF f ops).1 := by
  -- the same from any point of the run on, so that the induction can follow the operations
  have from_ : ∀ ops g as es bs, P as es bs g →
      P (as ++ accepted g ops) (es ++ emitted g ops) (bs ++ segments g ops) (runF g ops).1 := by
    intro ops
    induction ops with
    | nil => intro g as es bs h; simpa using h
    | cons op ops ih =>
      intro g as es bs h
      rw [accepted_cons, emitted_cons, segments_cons, runF_cons, ← List.append_assoc, ← List.append_assoc,
        ← List.append_assoc]
      apply ih
      rcases step_effect g op with ⟨ha, he, hs, c, hg⟩ | ⟨a, ha, he, hs, hge, hg⟩ | ⟨ha, he, hs, hne, hg⟩ <;>
        rw [ha, he, hs, hg]
      · simpa using quiet c h
      · simpa using accept a h hge
      · simpa using emit h hne
  simpa using from_ ops f [] [] [] start

theorem run_conserve (f : Frag) (ops : List FOp) :
    (emitted f ops).flatten ++ (runF f ops).1.samples = f.samples ++ accepted f ops :=
  run_induction f (P := fun as es _ g => es.flatten ++ g.samples = f.samples ++ as) (by simp) (fun _ ih => ih)
    (fun a ih _ => by rw [← List.append_assoc, ih, List.append_assoc]) (fun ih _ => by simpa using ih) ops

theorem run_lastDts (f : Frag) (ops : List FOp) :
    (runF f ops).1.lastDts = ((accepted f ops).getLast?.map (·.dts)).or f.lastDts :=
  run_induction f (P := fun as _ _ g => g.lastDts = (as.getLast?.map (·.dts)).or f.lastDts) (by simp)
    (fun _ ih => ih) (fun a _ _ => by simp) (fun ih _ => ih) ops

theorem run_sorted (f : Frag) (ops : List FOp) :
    (accepted f ops).Pairwise (fun a b => a.dts ≤ b.dts) ∧
    ∀ x ∈ accepted f ops, ∃ l, (runF f ops).1.lastDts = some l ∧ x.dts ≤ l := by
  refine run_induction f (P := fun as _ _ g => as.Pairwise (fun a b => a.dts ≤ b.dts) ∧
    ∀ x ∈ as, ∃ l, g.lastDts = some l ∧ x.dts ≤ l) (by simp) (fun _ ih => ih) ?_ (fun ih _ => ih) ops
  intro as _ _ g a ⟨hp, hl⟩ hge
  -- the new sample is not below `lastDts`, hence not below any earlier one
  have hle : ∀ x ∈ as, x.dts ≤ a.dts := fun x hx =>
    have ⟨l, hgl, hxl⟩ := hl x hx
    Nat.le_trans hxl (hge l hgl)
  refine ⟨List.pairwise_append.mpr ⟨hp, List.pairwise_singleton _ _, fun x hx y hy => ?_⟩, fun x hx => ⟨_, rfl, ?_⟩⟩
  · rw [List.mem_singleton.mp hy]; exact hle x hx
  · rcases List.mem_append.mp hx with hx | hx
    · exact hle x hx
    · rw [List.mem_singleton.mp hx]; exact Nat.le_refl _

theorem emitted_ne_nil (f : Frag) (ops : List FOp) : ∀ ss ∈ emitted f ops, ss ≠ [] :=
  run_induction f (P := fun _ es _ _ => ∀ ss ∈ es, ss ≠ []) (by simp) (fun _ ih => ih) (fun _ ih _ => ih)
    (fun ih hne => List.forall_mem_append.mpr ⟨ih, by simpa using hne⟩) ops

/-- **Sequence numbers and base decode times**: the counter has advanced by the number of emitted queues (it is
    a `u32` and wraps), and the k-th emitted queue is returned as the segment with sequence number `seq₀ + k` and
    its first sample's dts as base decode time -/
theorem segments_eq (f : Frag) (ops : List FOp) (hq : f.seq < 2^32) :
    (runF f ops).1.seq = (f.seq + (emitted f ops).length) % 2^32 ∧
    segments f ops =
      (emitted f ops).mapIdx fun k ss => buildSegment ss ((f.seq + k) % 2^32) (firstDts ss) := by
  refine run_induction f (P := fun _ es bs g => g.seq = (f.seq + es.length) % 2^32 ∧
    bs = es.mapIdx fun k ss => buildSegment ss ((f.seq + k) % 2^32) (firstDts ss))
    ⟨(Nat.mod_eq_of_lt hq).symm, rfl⟩ (fun _ ih => ih) (fun _ ih _ => ih) ?_ ops
  intro _ es bs g ⟨hseq, hbs⟩ _
  constructor
  · simp only [hseq, List.length_append, List.length_singleton, Nat.mod_add_mod, Nat.add_assoc]
  · simp only [List.mapIdx_append, List.mapIdx_cons, List.mapIdx_nil, Nat.zero_add, hseq, hbs]

theorem step_cfg (f : Frag) (op : FOp) : (stepF f op).1.cfg = f.cfg := by
  rcases step_effect f op with ⟨-, -, -, c, hf⟩ | ⟨a, -, -, -, -, hf⟩ | ⟨-, -, -, -, hf⟩ <;> rw [hf]

theorem run_cfg (f : Frag) (ops : List FOp) : (runF f ops).1.cfg = f.cfg := by
  induction ops generalizing f with
  | nil => rfl
  | cons op ops ih => rw [runF_cons]; simp only; rw [ih, step_cfg]

/-- the cache, if filled, holds `buildInit cfg` -/
def Frag.cacheOk (f : Frag) : Prop := ∀ b, f.initCache = some b → b = buildInit f.cfg

theorem Frag.sameExceptCache.eq_setCache {f g : Frag} (h : f.sameExceptCache g) :
    g = { f with initCache := g.initCache } :=
  congrArg (fun x : Frag => { x with initCache := g.initCache }) ((sameExceptCache_iff f g).1 h).symm

/-- every operation other than `init` neither reads nor writes the cache -/
theorem stepF_setCache (f : Frag) (c : Option Bytes) (op : FOp) (hop : op ≠ .init) :
    stepF { f with initCache := c } op = ({ (stepF f op).1 with initCache := c }, (stepF f op).2) := by
  cases op with
  | write p d b s =>
    by_cases h : Rejects f d
    · rw [stepF, stepF, write_reject f _ _ _ _ h, write_reject { f with initCache := c } _ _ _ _ h]
    · rw [stepF, stepF, write_accept f _ _ _ _ h, write_accept { f with initCache := c } _ _ _ _ h]
  | flush =>
    by_cases hs : f.samples = []
    · rw [stepF, stepF, flush_nil f hs, flush_nil { f with initCache := c } hs]
    · rw [stepF, stepF, flush_ne_nil f hs, flush_ne_nil { f with initCache := c } hs]
  | ready => rfl
  | dur => rfl
  | init => exact absurd rfl hop

theorem stepF_initCache (f : Frag) (op : FOp) (hop : op ≠ .init) : (stepF f op).1.initCache = f.initCache :=
  congrArg (·.1.initCache) (stepF_setCache f f.initCache op hop)

theorem step_sameExceptCache (f g : Frag) (op : FOp) (hop : op ≠ .init) (h : f.sameExceptCache g) :
    (stepF f op).2 = (stepF g op).2 ∧ (stepF f op).1.sameExceptCache (stepF g op).1 := by
  have hg := stepF_setCache f g.initCache op hop
  rw [← h.eq_setCache] at hg
  rw [hg]
  exact ⟨rfl, sameExceptCache_refl _⟩

theorem init_cacheOk (f : Frag) (h : f.cacheOk) :
    f.init.2 = .init (buildInit f.cfg) ∧ f.init.1.cacheOk := by
  unfold Frag.init
  cases hc : f.initCache with
  | none => simp [Frag.cacheOk]
  | some b =>
    have := h b hc
    subst this
    exact ⟨rfl, h⟩

theorem step_cacheOk (f : Frag) (op : FOp) (h : f.cacheOk) : (stepF f op).1.cacheOk := by
  by_cases hop : op = .init
  · subst hop; exact (init_cacheOk f h).2
  · intro b hb
    rw [stepF_initCache f op hop] at hb
    rw [step_cfg]
    exact h b hb

theorem run_cacheOk (f : Frag) (ops : List FOp) (h : f.cacheOk) : (runF f ops).1.cacheOk := by
  induction ops generalizing f with
  | nil => exact h
  | cons op ops ih => exact ih _ (step_cacheOk f op h)

theorem run_sameExceptCache (f g : Frag) (ops : List FOp) (h : f.sameExceptCache g)
    (hf : f.cacheOk) (hg : g.cacheOk) :
    (runF f ops).2 = (runF g ops).2 ∧ (runF f ops).1.sameExceptCache (runF g ops).1 := by
  induction ops generalizing f g with
  | nil => exact ⟨rfl, h⟩
  | cons op ops ih =>
    have hs : (stepF f op).2 = (stepF g op).2 ∧ (stepF f op).1.sameExceptCache (stepF g op).1 := by
      by_cases hop : op = .init
      · subst hop
        exact ⟨by rw [stepF, stepF, (init_cacheOk f hf).1, (init_cacheOk g hg).1, h.1],
          (init_sameExceptCache f).symm.trans (h.trans (init_sameExceptCache g))⟩
      · exact step_sameExceptCache f g op hop h
    obtain ⟨ih1, ih2⟩ := ih _ _ hs.2 (step_cacheOk f op hf) (step_cacheOk g op hg)
    rw [runF_cons, runF_cons, hs.1, ih1]
    exact ⟨rfl, ih2⟩

@[simp] theorem preStates_length (f : Frag) (ops : List FOp) : (preStates f ops).length = ops.length := by
  induction ops generalizing f with
  | nil => rfl
  | cons op ops ih => simp [preStates, ih]

theorem run_reply_at (f : Frag) (ops : List FOp) (i : Nat) (op : FOp) (h : ops[i]? = some op) :
    (preStates f ops)[i]? = some (runF f (ops.take i)).1 ∧
    (runF f ops).2[i]? = some (stepF (runF f (ops.take i)).1 op).2 := by
  induction ops generalizing f i with
  | nil => simp at h
  | cons o ops ih =>
    cases i with
    | zero => cases h; exact ⟨rfl, rfl⟩
    | succ i => exact ih (stepF f o).1 i h

theorem step_init_reply (f : Frag) (op : FOp) (h : f.cacheOk) :
    (op = .init → (stepF f op).2 = .init (buildInit f.cfg)) ∧
    (∀ b, (stepF f op).2 = .init b → op = .init ∧ b = buildInit f.cfg) := by
  cases op with
  | write p d bs s => by_cases h : Rejects f d <;> simp [stepF, write_reject, write_accept, h]
  | flush => by_cases hs : f.samples = [] <;> simp [stepF, flush_nil, flush_ne_nil, hs]
  | ready => simp only [stepF, Frag.ready]; split <;> simp
  | dur => simp [stepF, Frag.durMs]
  | init => simp [stepF, (init_cacheOk f h).1, eq_comm]

theorem run_init (f : Frag) (ops : List FOp) (h : f.cacheOk) (i : Nat) (op : FOp) (r : FReply)
    (hop : ops[i]? = some op) (hr : (runF f ops).2[i]? = some r) :
    (op = .init → r = .init (buildInit f.cfg)) ∧ (∀ b, r = .init b → op = .init ∧ b = buildInit f.cfg) := by
  rw [(run_reply_at f ops i op hop).2, Option.some.injEq] at hr
  rw [← hr, ← run_cfg f (ops.take i)]
  exact step_init_reply _ op (run_cacheOk f _ h)

/-- the replies to the operations other than `init` -/
def nonInitReplies (ops : List FOp) (rs : List FReply) : List FReply :=
  ((ops.zip rs).filter (fun p => p.1 ≠ FOp.init)).map (·.2)

theorem run_drop_init (f : Frag) (ops : List FOp) (h : f.cacheOk) :
    nonInitReplies ops (runF f ops).2 = (runF f (ops.filter (· ≠ .init))).2 := by
  induction ops generalizing f with
  | nil => rfl
  | cons op ops ih =>
    have hc := step_cacheOk f op h
    by_cases hop : op = .init
    · subst hop
      have hs : (runF f _).2 = (runF (stepF f .init).1 _).2 :=
        (run_sameExceptCache _ _ (ops.filter (· ≠ .init)) (init_sameExceptCache f) h hc).1
      rw [List.filter_cons_of_neg (by simp), hs, ← ih _ hc]
      simp [nonInitReplies, runF_cons]
    · rw [List.filter_cons_of_pos (by simpa using hop), runF_cons, runF_cons, ← ih _ hc]
      simp [nonInitReplies, hop]

theorem runF_append (f : Frag) (a b : List FOp) :
    runF f (a ++ b) = ((runF (runF f a).1 b).1, (runF f a).2 ++ (runF (runF f a).1 b).2) := by
  induction a generalizing f with
  | nil => simp
  | cons op a ih => simp only [List.cons_append, runF_cons, ih]

theorem accepted_append (f : Frag) (a b : List FOp) :
    accepted f (a ++ b) = accepted f a ++ accepted (runF f a).1 b := by
  induction a generalizing f with
  | nil => simp
  | cons op a ih => simp only [List.cons_append, accepted_cons, runF_cons, ih, List.append_assoc]

theorem emitted_append (f : Frag) (a b : List FOp) :
    emitted f (a ++ b) = emitted f a ++ emitted (runF f a).1 b := by
  induction a generalizing f with
  | nil => simp
  | cons op a ih => simp only [List.cons_append, emitted_cons, runF_cons, ih, List.append_assoc]

end Muxide
