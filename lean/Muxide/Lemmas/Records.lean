import Muxide.Spec.Strict
import Muxide.Model.Frag
import Muxide.Lemmas.Meta
import Muxide.Lemmas.ParamSets
/-
  Muxide.Lemmas.Records — helper lemmas relating the header-box / configuration-record builders
  to the strict decoders of Muxide.Spec.Strict and the table decoders of Muxide.Spec.Reader:
  reading a field (`be` / `allZero` / `identityMatrix`) out of appended pieces, the sample-entry
  prefixes and the AudioSpecificConfig for all arguments, length-prefixed parameter-set lists,
  count-prefixed integer tables.
-/
namespace Muxide
open Muxide.Spec Box

/-! ### reading a field of a record

  A payload is a concatenation of fields of known lengths.  Once it is associated to the right, `be_append_right`
  skips a field that ends before the window, `be_append_left` stops at the field that contains it, and `be_u32be`,
  `be_u16be`, `be_zeros` read it; likewise `allZero_append` and `allZero_zeros` / `allZero_beyond`.  As `simp` lemmas
  (the set `RecordSimp` below) they let a strict decoder walk through a builder's payload without either being
  unfolded to bytes; `simp` itself discharges the length conditions. -/

theorem be_append_left (a b : Bytes) (off len : Nat) (h : off + len ≤ a.length) :
    be (a ++ b) off len = be a off len := by
  unfold be
  rw [List.drop_append_of_le_length (by omega), List.take_append_of_le_length (by simp; omega)]

theorem be_append_right (a b : Bytes) (off len : Nat) (h : a.length ≤ off) :
    be (a ++ b) off len = be b (off - a.length) len := by
  unfold be
  rw [List.drop_append, List.drop_eq_nil_of_le h]
  simp

theorem be_cons_succ (x : UInt8) (a : Bytes) (off len : Nat) : be (x :: a) (off + 1) len = be a off len := by
  simp [be]

theorem be_one_zero (x : UInt8) (a : Bytes) : be (x :: a) 0 1 = x.toNat := by simp [be]

theorem be_two (a b : UInt8) : be [a, b] 0 2 = a.toNat * 2^8 + b.toNat := by simp [be]

theorem be_four (a b c e : UInt8) :
    be [a, b, c, e] 0 4 = a.toNat * 2^24 + b.toNat * 2^16 + c.toNat * 2^8 + e.toNat := by
  simp [be]
  omega

theorem be_u32be (n : Nat) : be (u32be n) 0 4 = n % 2^32 := by
  simp only [u32be, be_four, toNat_u8, Nat.mod_mod, bytes4_value]

theorem be_u16be (n : Nat) : be (u16be n) 0 2 = n % 2^16 := by
  simp only [u16be, be_two, toNat_u8, Nat.mod_mod, bytes2_value]

theorem allZero_append (a b : Bytes) (off len : Nat) :
    allZero (a ++ b) off len = (allZero a off len && allZero b (off - a.length) (len - (a.length - off))) := by
  unfold allZero
  rw [List.drop_append, List.take_append, List.all_append]
  simp

theorem allZero_zeros (n off len : Nat) : allZero (zeros n) off len = true := by
  simp only [allZero, zeros, List.all_eq_true]
  intro x hx
  have := List.mem_of_mem_drop (List.mem_of_mem_take hx)
  simp [List.mem_replicate] at this
  simp [this.2]

theorem allZero_len_zero (a : Bytes) (off : Nat) : allZero a off 0 = true := by simp [allZero]

theorem allZero_beyond (a : Bytes) (off len : Nat) (h : a.length ≤ off) : allZero a off len = true := by
  simp [allZero, List.drop_eq_nil_of_le h]

theorem be_eq_zero_of_allZero {d : Bytes} {off len : Nat} (h : allZero d off len = true) : be d off len = 0 := by
  unfold allZero at h
  unfold be
  generalize (d.drop off).take len = l at h
  induction l with
  | nil => rfl
  | cons x l ih =>
    simp only [List.all_cons, Bool.and_eq_true, beq_iff_eq] at h
    simp only [List.foldl_cons, h.1]
    exact ih h.2

theorem be_zeros (n off len : Nat) : be (zeros n) off len = 0 := be_eq_zero_of_allZero (allZero_zeros n off len)

/-- a field holding 0 is a run of zero bytes, whatever its width, and adjacent runs are one run: a window over
    several reserved fields is read in one step -/
theorem u16be_zero : u16be 0 = zeros 2 := by decide
theorem u32be_zero : u32be 0 = zeros 4 := by decide
theorem u64be_zero : u64be 0 = zeros 8 := by decide

theorem zeros_append (m n : Nat) : zeros m ++ zeros n = zeros (m + n) := by simp [zeros]

/-- the unity matrix of `mvhd` / `tkhd` as the fragmented writer spells it out -/
theorem matrixBytes_eq : matrixBytes =
    u32be 0x10000 ++ zeros 12 ++ u32be 0x10000 ++ zeros 12 ++ u32be 0x40000000 := by decide

theorem identityMatrix_append_right (a b : Bytes) (off : Nat) (h : a.length ≤ off) :
    identityMatrix (a ++ b) off = identityMatrix b (off - a.length) := by
  have e : ∀ i, be (a ++ b) (off + 4 * i) 4 = be b (off - a.length + 4 * i) 4 := fun i => by
    rw [be_append_right _ _ _ _ (by omega)]; congr 1; omega
  simp only [identityMatrix, e]

theorem identityMatrix_zero (d : Bytes) : identityMatrix d 0 = true ↔
    be d 0 4 = 0x10000 ∧ be d 4 4 = 0 ∧ be d 8 4 = 0 ∧ be d 12 4 = 0 ∧ be d 16 4 = 0x10000 ∧ be d 20 4 = 0 ∧
    be d 24 4 = 0 ∧ be d 28 4 = 0 ∧ be d 32 4 = 0x40000000 := by
  simp [identityMatrix, List.range, List.range.loop]

namespace RecordSimp
attribute [scoped simp] toNat_u8 be_append_left be_append_right be_cons_succ be_one_zero be_u32be be_u16be be_zeros
  allZero_append allZero_zeros allZero_beyond allZero_len_zero u16be_zero u32be_zero u64be_zero zeros_append
  matrixBytes_eq identityMatrix_append_right identityMatrix_zero
end RecordSimp

section
open RecordSimp

theorem bTkhd_trackId (id vol w h dur : Nat) : be (bTkhd id vol w h dur).pre 12 4 = id % 2^32 := by
  simp [bTkhd, leaf, Box.pre]

theorem bMvhd_nextTrackId (d n : Nat) : be (bMvhd d n).pre 96 4 = n % 2^32 := by
  simp [bMvhd, leaf, Box.pre]

/-- a 16-bit quantity written as 16.16 fixed point into a 32-bit field keeps its low 16 bits -/
theorem fixed16_wrap (w : Nat) : w * 2^16 % 2^32 = w % 65536 * 65536 := by omega

theorem fixed16_exact (w : Nat) (h : w < 2^16) : w * 2^16 % 2^32 = w * 65536 := by
  rw [fixed16_wrap, Nat.mod_eq_of_lt h]

theorem strictVisualEntry_prefix (w h : Nat) :
    strictVisualEntry (visualEntryPrefix w h) = some ⟨w % 2^16, h % 2^16⟩ := by
  simp [visualEntryPrefix, strictVisualEntry]

theorem strictAudioEntry_prefix (ch r : Nat) :
    strictAudioEntry (audioEntryPrefix ch r) = some ⟨ch % 2^16, 16, r % 2^32⟩ := by
  simp [audioEntryPrefix, strictAudioEntry]

end

theorem ite_le {c : Prop} [Decidable c] {a b n : Nat} (ha : a ≤ n) (hb : b ≤ n) : (if c then a else b) ≤ n := by
  split <;> assumption

theorem sfiOf_lt (r : Nat) : sfiOf r < 13 := by
  have : sfiOf r ≤ 12 := by
    unfold sfiOf
    iterate 13 (refine ite_le (by decide) ?_)
    decide
  omega

theorem sfiOf_idxOf : ∀ r ∈ ascRates, sfiOf r = ascRates.idxOf r := by decide

theorem decodeAsc_ascBytes (rate ch : Nat) : decodeAsc (ascBytes rate ch) = some (2, sfiOf rate, min ch 15) := by
  have hs := sfiOf_lt rate
  have hc : min ch 15 ≤ 15 := Nat.min_le_right _ _
  -- the 16 bits are `00010 ssss cccc 000`: AAC-LC, the frequency index, the channel configuration capped at 15
  have e : be (ascBytes rate ch) 0 2 = 2 * 2048 + sfiOf rate * 128 + min ch 15 * 8 := by
    simp only [ascBytes, be_two, toNat_u8]
    omega
  have hl : (ascBytes rate ch).length = 2 := rfl
  simp [decodeAsc, e, hl]
  omega

theorem readSets_one (s r : Bytes) (h : s.length < 2^16) :
    readSets 1 (u16be s.length ++ (s ++ r)) = some ([s], r) := by
  simp [readSets, readU16_u16be _ h]

theorem readArrays_one (b : UInt8) (s r : Bytes) (n : Nat) (h : s.length < 2^16) (hb : b.toNat / 64 % 2 = 0) :
    readArrays (n + 1) (b :: (u16be 1 ++ (u16be s.length ++ (s ++ r)))) =
      match readArrays n r with
      | none => none
      | some (xs, r') => some ((b.toNat % 64, [s]) :: xs, r') := by
  simp only [readArrays, hb, ne_eq, not_true_eq_false, if_false, readU16_u16be 1 (by omega), readSets_one s r h]
  cases readArrays n r <;> rfl

/-- `0xff`: reserved bits and 4-byte NAL lengths; `0xe1`: reserved bits and one SPS; then one PPS -/
theorem avcC_core (pi pc li : UInt8) (sps pps : Bytes) (hs : sps.length < 2^16) (hp : pps.length < 2^16) :
    strictAvcC ([1, pi, pc, li, 0xff, 0xe1] ++ u16be sps.length ++ sps ++ [1] ++ u16be pps.length ++ pps) =
      some ⟨pi.toNat, pc.toNat, li.toNat, [sps], [pps]⟩ := by
  have h1 := readSets_one sps (1 :: (u16be pps.length ++ pps)) hs
  have h2 := readSets_one pps [] hp
  simp only [List.append_nil] at h2
  simp [strictAvcC, be, h1, h2]
  omega

/-- the fixed 23-byte hvcC header as both muxers write it (general_profile byte `b1`, level byte
    `lvl`, byte 21 `b21`, array count `n`), then the arrays -/
theorem hvcC_core (b1 lvl b21 n : UInt8) (rest : Bytes) :
    strictHvcC (1 :: b1 :: 0x60 :: 0 :: 0 :: 0 :: 0x90 :: 0 :: 0 :: 0 :: 0 :: 0 :: lvl :: 0xf0 :: 0 :: 0xfc :: 0xfd ::
        0xf8 :: 0xf8 :: 0 :: 0 :: b21 :: n :: rest) =
      match readArrays n.toNat rest with
      | some (arrs, []) => some ⟨b1.toNat / 64, b1.toNat / 32 % 2, b1.toNat % 32, lvl.toNat, b21.toNat % 4, arrs⟩
      | _ => none := by
  simp [strictHvcC, be]
  rcases readArrays n.toNat rest with _ | ⟨arrs, _ | _⟩ <;> simp

theorem readArrays_last (b : UInt8) (s : Bytes) (h : s.length < 2^16) (hb : b.toNat / 64 % 2 = 0) :
    readArrays 1 (b :: (u16be 1 ++ (u16be s.length ++ s))) = some ([(b.toNat % 64, [s])], []) := by
  have := readArrays_one b s [] 0 h hb
  rwa [List.append_nil] at this

/-- the general_profile byte of the progressive writer's hvcC: SPS byte 3 when present, else 1. `build_hvcc_box`
    (src/muxer/mp4.rs) packs it from `general_profile_space`, `general_tier_flag` and `general_profile_idc` of
    `impl HevcConfig` (src/codec/h265.rs), which read bits 7–6, 5 and 4–0 of SPS byte 3 with defaults 0, false, 1. -/
def hevcProfileByte (sps : Bytes) : Nat := ((sps[3]?).map (·.toNat)).getD 1

/-- splitting a byte into profile space (2 bits), tier flag and profile idc (5 bits) and packing them again, in the
    shape of `byte1` of `bHvcC` -/
theorem byte_reassemble (x : Nat) (hx : x < 256) :
    (x / 64 % 4 * 64 % 256 + (if decide (x / 32 % 2 ≠ 0) = true then 0x20 else 0) + x % 32 % 32) % 256 = x := by
  have : (if decide (x / 32 % 2 ≠ 0) = true then 0x20 else 0) = x / 32 % 2 * 32 := by
    rcases Nat.mod_two_eq_zero_or_one (x / 32) with h | h <;> simp [h]
  omega

theorem hevc_byte1 (c : HevcConfig) :
    (u8 (((match (c.sps[3]?).map (·.toNat) with | some b => b / 64 % 4 | none => 0) * 64) % 256 +
      (if (match (c.sps[3]?).map (·.toNat) with | some b => decide (b / 32 % 2 ≠ 0) | none => false) then 0x20 else 0) +
      (match (c.sps[3]?).map (·.toNat) with | some b => b % 32 | none => 1) % 32)).toNat = hevcProfileByte c.sps := by
  unfold hevcProfileByte
  cases c.sps[3]? with
  | none => rfl
  | some b =>
    simp only [Option.map_some, Option.getD_some, toNat_u8]
    exact byte_reassemble _ b.toNat_lt

theorem readU32s_flatMap (xs : List Nat) (r : Bytes) (h : ∀ x ∈ xs, x < 2^32) :
    readU32s xs.length (xs.flatMap u32be ++ r) = some (xs, r) := by
  induction xs with
  | nil => rfl
  | cons x xs ih =>
    rw [List.forall_mem_cons] at h
    simp only [List.flatMap_cons, List.length_cons, List.append_assoc, readU32s, readU32_u32be x h.1, ih h.2]

theorem readPairs_flatMap (es : List (Nat × Nat)) (r : Bytes)
    (h : ∀ e ∈ es, e.1 < 2^32 ∧ e.2 < 2^32) :
    readPairs es.length ((es.flatMap fun (c, d) => u32be c ++ u32be d) ++ r) = some (es, r) := by
  induction es with
  | nil => rfl
  | cons e es ih =>
    rw [List.forall_mem_cons] at h
    simp only [List.flatMap_cons, List.length_cons, List.append_assoc, readPairs, readU32_u32be _ h.1.1,
      readU32_u32be _ h.1.2, ih h.2]

theorem i32_pattern_lt (z : Int) : (z % (2^32 : Int)).toNat < 2^32 := by omega

theorem readPairs_flatMap_i32 (es : List (Nat × Int)) (r : Bytes) (h : ∀ e ∈ es, e.1 < 2^32) :
    readPairs es.length ((es.flatMap fun (c, o) => u32be c ++ i32be o) ++ r) =
      some (es.map (fun (c, o) => (c, (o % (2^32 : Int)).toNat)), r) := by
  -- `i32be o` is `u32be` of the two's-complement pattern of `o`
  have := readPairs_flatMap (es.map fun (c, o) => (c, (o % (2^32 : Int)).toNat)) r (by
    intro e he
    obtain ⟨⟨c, o⟩, hco, rfl⟩ := List.mem_map.mp he
    exact ⟨h _ hco, i32_pattern_lt o⟩)
  rwa [List.length_map, List.flatMap_map] at this

end Muxide
