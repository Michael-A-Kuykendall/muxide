import Muxide.Lemmas.Mp4Shape
import Muxide.Lemmas.Fields
/-
  Muxide.Lemmas.Layout — the length of the moov does not depend on the chunk-offset values (which makes
  the two-pass placeholder construction exact); the chunk sequences of the finalize layouts and of the
  fragmented writer, as serialised top-level box sequences; the number of chunks and the size of the moov
  as functions of the writer state; a sufficient condition for `finalize` to succeed.
-/
namespace Muxide
open Muxide.Spec Props.C08

theorem bStco_size (offs : List Nat) : (bStco offs).size = 16 + 4 * offs.length := by
  simp [bStco, Box.leaf, Box.size, Box.sizes, List.length_flatMap, List.map_const', List.sum_replicate_nat]
  omega

theorem bMoov_ser_length (w h : Nat) (vt : Tables) (au : Option (AudioTrack × Tables)) (vc : VideoConfig)
    (md : Option Metadata) (vo' ao' : List Nat) (hv : vo'.length = vt.chunkOffsets.length)
    (ha : ∀ x ∈ au, ao'.length = x.2.chunkOffsets.length) :
    (bMoov w h { vt with chunkOffsets := vo' }
        (au.map fun x => (x.1, { x.2 with chunkOffsets := ao' })) vc md).ser.length
      = (bMoov w h vt au vc md).ser.length := by
  rw [ser_len_shape _ (shape_bMoov ..), ser_len_shape _ (shape_bMoov ..)]
  -- sizes add up over the tree, and the offsets occur in the two `stco` leaves only
  cases au with
  | none =>
    simp only [bMoov, bVideoTrak, bVideoStbl, Option.map_none, Box.node, Box.size, Box.sizes, sizes_append,
      bStco_size, hv, Tables.totalDuration]
  | some x =>
    simp only [bMoov, bVideoTrak, bVideoStbl, bAudioTrak, bAudioStbl, Option.map_some, Box.node, Box.size,
      Box.sizes, sizes_append, bStco_size, hv, ha x rfl, Tables.totalDuration, Option.isSome_some]

theorem moovOf_ser_length (w : Writer) (W H : Nat) (md : Option Metadata) (vc : VideoConfig)
    (o o' : List Nat × List Nat) (h1 : o.1.length = o'.1.length) (h2 : o.2.length = o'.2.length) :
    (moovOf w W H md vc o).ser.length = (moovOf w W H md vc o').ser.length := by
  unfold moovOf
  cases w.audio with
  | none => exact bMoov_ser_length W H (Tables.ofSamples _ o'.1 _ _) none vc md o.1 [] h1 (by intro x hx; cases hx)
  | some tr =>
    exact bMoov_ser_length W H (Tables.ofSamples _ o'.1 _ _) (some (tr, Tables.ofSamples _ o'.2 _ _)) vc md o.1 o.2 h1
      (by intro x hx; cases hx; exact h2)

theorem bFtyp_ser_length : bFtyp.ser.length = ftypLen := by decide

theorem mdatHeader_flatten_length (p : Nat) : (mdatHeader p).flatten.length = 8 := by
  have : (ascii "mdat").length = 4 := by decide
  simp [mdatHeader, this]

/-- A/V fast start: the moov measured on the placeholder offsets 0,1,2,… has the length of the
    final moov, whatever the samples, the metadata and the offsets -/
theorem placeholder_length_av (width height : Nat) (vs aus : List Sample) (tr : AudioTrack)
    (fb fb' : Option Nat) (vc : VideoConfig) (md : Option Metadata) (sched : List Ent)
    (step step' : Ent → Nat) (c c' : Nat) :
    (bMoov width height (Tables.ofSamples vs (assignOffsets step sched c).1 1 fb)
        (some (tr, Tables.ofSamples aus (assignOffsets step sched c).2 1 fb')) vc md).ser.length =
    (bMoov width height (Tables.ofSamples vs (assignOffsets step' sched c').1 1 fb)
        (some (tr, Tables.ofSamples aus (assignOffsets step' sched c').2 1 fb')) vc md).ser.length := by
  exact bMoov_ser_length width height (Tables.ofSamples vs (assignOffsets step' sched c').1 1 fb)
    (some (tr, Tables.ofSamples aus (assignOffsets step' sched c').2 1 fb')) vc md
    (assignOffsets step sched c).1 (assignOffsets step sched c).2
    (assignOffsets_length_indep step step' sched c c').1
    (by intro x hx; cases hx; exact (assignOffsets_length_indep step step' sched c c').2)

def mdatBox (payload : Bytes) : Box := Box.mk (ascii "mdat") payload []

theorem mdat_ser (payload : Bytes) (n : Nat) (h : payload.length = n) :
    (mdatBox payload).ser = u32be (8 + n) ++ ascii "mdat" ++ payload := by
  simp [mdatBox, Box.ser, Box.sers, Box.sizes, h]

theorem mediaChunks_flatten_length (w : Writer) : (mediaChunks w).flatten.length = payloadLen w := by
  unfold mediaChunks payloadLen
  cases w.audio with
  | some tr => simp only []; rw [entData_flatten_length, schedule_size_sum]
  | none => simp only []; rw [← List.flatMap_def, List.length_flatMap]

theorem mdat_flatten (w : Writer) (rest : Bytes) :
    (mdatHeader (payloadLen w)).flatten ++ ((mediaChunks w).flatten ++ rest) =
      (mdatBox (mediaChunks w).flatten).ser ++ rest := by
  rw [mdat_ser _ _ (mediaChunks_flatten_length w)]
  simp [mdatHeader]

theorem standard_flatten (w : Writer) (moov : Box) :
    (stdPre w ++ [moov.ser]).flatten =
      if w.audio = none ∧ w.vsRev = [] then Box.sers [bFtyp, moov]
      else Box.sers [bFtyp, mdatBox (mediaChunks w).flatten, moov] := by
  unfold stdPre
  split
  · simp [Box.sers]
  · simp only [List.flatten_append, List.flatten_cons, List.flatten_nil, List.append_nil, List.append_assoc]
    rw [mdat_flatten]
    simp [Box.sers]

theorem fastStart_flatten (w : Writer) (moov : Box) :
    ([bFtyp.ser, moov.ser] ++ mdatHeader (payloadLen w) ++ mediaChunks w).flatten =
      Box.sers [bFtyp, moov, mdatBox (mediaChunks w).flatten] := by
  simp only [List.flatten_append, List.flatten_cons, List.flatten_nil, List.append_nil, List.append_assoc]
  rw [← List.append_nil (mediaChunks w).flatten, mdat_flatten]
  simp [Box.sers]

/-- The file a successful `finalize` writes, as top-level boxes, whatever the track mix and the
    layout; the media data fit the mdat box. (`AudioInv` matters only for the fast-start layout,
    whose mdat size field counts the audio queue even without an audio track.) -/
theorem finalize_flatten {w : Writer} {W H : Nat} {md : Option Metadata} {fast : Bool}
    (hok : (w.finalize W H md fast).2.res = .ok) (hinv : fast = true → AudioInv w) :
    8 + (mediaChunks w).flatten.length ≤ u32Max ∧
    (w.finalize W H md fast).2.chunks.flatten =
      if fast then
        Box.sers [bFtyp, moovOf w W H md (w.vConfig.getD (.avc defaultAvc))
          (offsetsAt w (fastStart w W H md (w.vConfig.getD (.avc defaultAvc)))), mdatBox (mediaChunks w).flatten]
      else if w.audio = none ∧ w.vsRev = [] then
        Box.sers [bFtyp, moovOf w W H md (w.vConfig.getD (.avc defaultAvc)) (offsetsAt w (ftypLen + 8))]
      else
        Box.sers [bFtyp, mdatBox (mediaChunks w).flatten,
          moovOf w W H md (w.vConfig.getD (.avc defaultAvc)) (offsetsAt w (ftypLen + 8))] := by
  have ok := finalize_ok hok
  refine ⟨by rw [mediaChunks_flatten_length]; exact ok.mdat, ?_⟩
  rw [ok.out]
  rw [ok.out] at hok
  cases fast with
  | false =>
    rw [layoutOut_false] at hok ⊢
    rw [(finalizeStandard_ok hok).chunks, standard_flatten, if_neg Bool.false_ne_true]
  | true =>
    rw [layoutOut_true] at hok ⊢
    rw [(finalizeFastStart_ok hok).chunks, queuedLen_eq w (hinv rfl), fastStart_flatten, if_pos rfl]

/-- the number of chunks (= chunk offsets) of the video and of the audio track: with an audio track
    one per sample (interleaved), without one a single video chunk if there is a frame -/
def chunkCounts (w : Writer) : Nat × Nat :=
  match w.audio with
  | some _ => (w.vsRev.length, w.asRev.length)
  | none => (if w.vsRev = [] then 0 else 1, 0)

theorem offsetsAt_counts (w : Writer) (start : Nat) :
    (offsetsAt w start).1.length = (chunkCounts w).1 ∧ (offsetsAt w start).2.length = (chunkCounts w).2 := by
  unfold offsetsAt chunkCounts
  cases w.audio with
  | some tr =>
    obtain ⟨h1, h2⟩ := schedule_offsets_length (entSize w.vsRev.reverse w.asRev.reverse) w.vsRev.reverse
      w.asRev.reverse start
    simp [h1, h2]
  | none => cases w.vsRev <;> simp

theorem placeholderOffsets_counts (w : Writer) :
    (placeholderOffsets w).1.length = (chunkCounts w).1 ∧ (placeholderOffsets w).2.length = (chunkCounts w).2 := by
  unfold placeholderOffsets chunkCounts
  cases w.audio with
  | some tr =>
    obtain ⟨h1, h2⟩ := schedule_offsets_length (fun _ => 1) w.vsRev.reverse w.asRev.reverse 0
    simp [h1, h2]
  | none => cases w.vsRev <;> simp

theorem offsetsAt_length_le (w : Writer) (start : Nat) :
    (offsetsAt w start).1.length ≤ w.vsRev.length ∧ (offsetsAt w start).2.length ≤ w.asRev.length := by
  rw [(offsetsAt_counts w start).1, (offsetsAt_counts w start).2]
  unfold chunkCounts
  cases w.audio with
  | some tr => exact ⟨Nat.le_refl _, Nat.le_refl _⟩
  | none => cases w.vsRev <;> simp

theorem moovOf_shape (w : Writer) (W H : Nat) (md : Option Metadata) (vc : VideoConfig) (o : List Nat × List Nat) :
    Shape isoSchema (moovOf w W H md vc o) := by
  unfold moovOf
  cases w.audio <;> exact shape_bMoov _ _ _ _ _ _

/-- the size of the moov that `finalize` writes for `w`, measured on zero chunk offsets -/
def moovSize (w : Writer) (W H : Nat) (md : Option Metadata) (vc : VideoConfig) : Nat :=
  Box.size (moovOf w W H md vc (List.replicate (chunkCounts w).1 0, List.replicate (chunkCounts w).2 0))

theorem moovOf_size (w : Writer) (W H : Nat) (md : Option Metadata) (vc : VideoConfig) (o : List Nat × List Nat)
    (h1 : o.1.length = (chunkCounts w).1) (h2 : o.2.length = (chunkCounts w).2) :
    Box.size (moovOf w W H md vc o) = moovSize w W H md vc := by
  unfold moovSize
  rw [← ser_len_shape _ (moovOf_shape ..), ← ser_len_shape _ (moovOf_shape ..)]
  exact moovOf_ser_length w W H md vc _ _ (by simp [h1]) (by simp [h2])

theorem fastStart_eq (w : Writer) (W H : Nat) (md : Option Metadata) (vc : VideoConfig) :
    fastStart w W H md vc = ftypLen + moovSize w W H md vc + 8 := by
  unfold fastStart
  rw [ser_len_shape _ (moovOf_shape ..),
    moovOf_size w W H md vc _ (placeholderOffsets_counts w).1 (placeholderOffsets_counts w).2]

/-- the fast-start layout succeeds when no moov builder panics and `ftyp`, the moov, the mdat header
    and the media data together stay within `u32::MAX` bytes -/
theorem finalizeFastStart_ok_of_fits {w : Writer} {W H : Nat} {md : Option Metadata} {vc : VideoConfig}
    (hinv : AudioInv w) (hp : moovPanics W H w.vsRev.reverse w.asRev.reverse w.audio.isSome = false)
    (hfit : ftypLen + moovSize w W H md vc + 8 + payloadLen w ≤ u32Max) :
    (finalizeFastStart w W H md vc).res = .ok := by
  have := maxOffsetAt_le w (fastStart w W H md vc)
  rw [fastStart_eq] at this
  rw [finalizeFastStart_eq, queuedLen_eq w hinv, fastStart_eq, if_neg (by omega), if_neg (by simp [hp]),
    if_neg (by omega)]

theorem finalizeStandard_ok_of_fits {w : Writer} {W H : Nat} {md : Option Metadata} {vc : VideoConfig}
    (hp : moovPanics W H w.vsRev.reverse w.asRev.reverse w.audio.isSome = false)
    (hfit : ftypLen + 8 + payloadLen w ≤ u32Max) : (finalizeStandard w W H md vc).res = .ok := by
  rw [finalizeStandard_eq, if_neg (by omega), if_neg (by omega), if_neg (by simp [hp])]

/-- `finalize` succeeds, in either layout, on a writer that is not yet finalized and holds no audio
    without an audio track, when both track durations and the dimensions fit their fields, no sample
    is empty, and `ftyp`, the moov, the mdat header and the media data together stay within
    `u32::MAX` bytes -/
theorem finalize_ok_of_fits {w : Writer} {W H : Nat} {md : Option Metadata} (fast : Bool)
    (hfresh : w.finalized = false) (hinv : AudioInv w)
    (hvd : (durationsOf w.vsRev.reverse w.vLastDelta).sum ≤ u32Max)
    (had : (durationsOf w.asRev.reverse w.aLastDelta).sum ≤ u32Max) (hW : W ≤ 65535) (hH : H ≤ 65535)
    (hp : moovPanics W H w.vsRev.reverse w.asRev.reverse w.audio.isSome = false)
    (hfit : ftypLen + moovSize w W H md (w.vConfig.getD (.avc defaultAvc)) + 8 + payloadLen w ≤ u32Max) :
    (w.finalize W H md fast).2.res = .ok := by
  rw [finalize_of_fresh _ _ _ _ _ hfresh, if_neg (by omega), if_neg (by omega)]
  cases fast with
  | false => rw [layoutOut_false]; exact finalizeStandard_ok_of_fits hp (by omega)
  | true => rw [layoutOut_true]; exact finalizeFastStart_ok_of_fits hinv hp hfit

theorem buildSegment_eq (samples : List FSample) (seq base : Nat) :
    buildSegment samples seq base =
      Box.sers [fMoof samples seq base ((fMoof samples seq base 0).ser.length % 2^32 + 8),
        mdatBox (samples.flatMap (·.data))] := by
  rw [Box.sers, Box.sers, Box.sers, mdat_ser _ _ List.length_flatMap]
  simp [buildSegment]

theorem trunRow_length (whole : List FSample) (i : Nat) (s : FSample) : (trunRow whole i s).length = 16 := by
  simp [trunRow]

theorem rows_length (whole : List FSample) (ps : List (Nat × FSample)) :
    (ps.flatMap fun (i, s) => trunRow whole i s).length = 16 * ps.length := by
  induction ps with
  | nil => rfl
  | cons p ps ih => simp [List.flatMap_cons, ih, trunRow_length]; omega

/-- 88 = moof header 8 + mfhd 16 + traf header 8 + tfhd 16 + tfdt 20 + trun header and its three words 20 -/
theorem fMoof_size (ss : List FSample) (q b off : Nat) : (fMoof ss q b off).size = 88 + 16 * ss.length := by
  have h := rows_length ss ((List.range ss.length).zip ss)
  rw [List.length_zip, List.length_range, Nat.min_self] at h
  simp only [fMoof, fMfhd, fTfhd, fTfdt, fTrun, Box.node, Box.leaf, Box.sizes, Box.size, List.length_append,
    u32be_length, u64be_length, List.length_nil, h]
  omega

theorem fMoof_ser_length (ss : List FSample) (q b off : Nat) :
    (fMoof ss q b off).ser.length = 88 + 16 * ss.length := by
  rw [ser_len_shape _ (shape_fMoof ss q b off), fMoof_size]

end Muxide
