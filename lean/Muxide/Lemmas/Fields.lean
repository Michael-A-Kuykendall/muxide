import Muxide.Lemmas.WriterInv
import Muxide.Lemmas.Offsets
/-
  Muxide.Lemmas.Fields — range lemmas for C16: every queued sample's payload length fits 32 bits
  in every reachable writer state; a finished file has fewer than 2^32 samples per track; the
  chunk offsets are bounded by the value the layout has checked.
-/
namespace Muxide
open Props.C08

theorem setLastDur_map_data (rev : List Sample) (d : Nat) :
    (setLastDur rev d).map (·.data) = rev.map (·.data) :=
  map_setLastDur _ (fun _ _ => rfl) rev d

/-- every queued payload length fits the 32-bit stsz field -/
def SizesOk (w : Writer) : Prop :=
  (∀ s ∈ w.vsRev, s.data.length ≤ u32Max) ∧ (∀ s ∈ w.asRev, s.data.length ≤ u32Max)

theorem Writer.Reachable.sizesOk {w : Writer} (h : w.Reachable) : SizesOk w := by
  refine h.push_induction (P := SizesOk) (fun _ _ => ⟨by simp, by simp⟩) ?_ ?_ (fun _ ih => ih)
  · intro w pts dts d k _ ih he
    obtain ⟨vc, e⟩ := w.videoPush_eq pts dts d k
    rw [e]
    exact ⟨List.forall_mem_cons.mpr
      ⟨(Writer.videoErr_none he).2.1, (forall_mem_pushRev (fun _ _ => Iff.rfl)).mpr ih.1⟩, ih.2⟩
  · intro w pts d _ ih he
    rw [Writer.audioPush_eq]
    exact ⟨ih.1, List.forall_mem_cons.mpr
      ⟨(Writer.audioErr_none he).2.2.1, (forall_mem_pushRev (fun _ _ => Iff.rfl)).mpr ih.2⟩⟩

theorem moovPanics_sizes (width height : Nat) (vs aus : List Sample) (b : Bool)
    (h : moovPanics width height vs aus b = false) :
    (∀ s ∈ vs, 1 ≤ s.data.length) ∧ (b = true → ∀ s ∈ aus, 1 ≤ s.data.length) := by
  simp only [moovPanics, Bool.or_eq_false_iff, Bool.and_eq_false_imp, List.any_eq_false, decide_eq_true_eq] at h
  exact ⟨fun s hs => Nat.pos_of_ne_zero (h.1.2 s hs), fun hb s hs => Nat.pos_of_ne_zero (h.2 hb s hs)⟩

/-- a finished file has fewer than 2^32 samples per track (every sample has at least one byte and
    the mdat size fits 32 bits), so the 32-bit entry counts are exact -/
theorem finalize_ok_count (w : Writer) (width height : Nat) (md : Option Metadata) (fast : Bool)
    (h : (w.finalize width height md fast).2.res = .ok) :
    w.vsRev.length < 2^32 ∧ (w.audio.isSome → w.asRev.length < 2^32) := by
  have ok := finalize_ok h
  have hz := moovPanics_sizes _ _ _ _ _ ok.noPanic
  have hv := length_le_sum_map (·.data.length) w.vsRev.reverse hz.1
  have hm := ok.mdat
  rw [List.length_reverse] at hv
  cases ha : w.audio with
  | none => simp only [payloadLen, ha, u32Max] at hm; exact ⟨by omega, by simp⟩
  | some tr =>
    simp only [payloadLen, ha, u32Max] at hm
    rw [ha] at hz
    have hau := length_le_sum_map (·.data.length) w.asRev.reverse (hz.2 rfl)
    rw [List.length_reverse] at hau
    exact ⟨by omega, fun _ => by omega⟩

/-- no chunk offset exceeds `maxOffsetAt`, the value the fast-start layout checks -/
theorem offsetsAt_le (w : Writer) (s : Nat) :
    (∀ x ∈ (offsetsAt w s).1, x ≤ maxOffsetAt w s) ∧ (∀ x ∈ (offsetsAt w s).2, x ≤ maxOffsetAt w s) := by
  cases ha : w.audio with
  | some tr =>
    simp only [offsetsAt, maxOffsetAt, ha]
    exact assignOffsets_le_maxPushed ..
  | none =>
    simp only [offsetsAt, maxOffsetAt, ha]
    split <;> simp

theorem maxOffsetAt_le (w : Writer) (s : Nat) : maxOffsetAt w s ≤ s + payloadLen w := by
  cases ha : w.audio with
  | some tr =>
    simp only [maxOffsetAt, payloadLen, ha, ← schedule_size_sum]
    exact maxPushed_le_sum ..
  | none =>
    simp only [maxOffsetAt, ha]
    split <;> omega

theorem offsetsAt_lt {w : Writer} {s : Nat} (h : maxOffsetAt w s ≤ u32Max) :
    (∀ x ∈ (offsetsAt w s).1, x < 2^32) ∧ (∀ x ∈ (offsetsAt w s).2, x < 2^32) :=
  ⟨fun x hx => Nat.lt_succ_of_le (Nat.le_trans ((offsetsAt_le w s).1 x hx) h),
   fun x hx => Nat.lt_succ_of_le (Nat.le_trans ((offsetsAt_le w s).2 x hx) h)⟩

/-- the standard layout checks the end of the media data when there is an audio track; without
    one its only chunk starts at `ftypLen + 8` -/
theorem StandardOk.maxOffset {w : Writer} {W H : Nat} {md : Option Metadata} {vc : VideoConfig}
    (h : StandardOk w W H md vc) : maxOffsetAt w (ftypLen + 8) ≤ u32Max := by
  cases ha : w.audio with
  | some tr => exact Nat.le_trans (maxOffsetAt_le w _) (h.offset (by rw [ha]; rfl))
  | none =>
    simp only [maxOffsetAt, ha]
    split <;> decide

end Muxide
