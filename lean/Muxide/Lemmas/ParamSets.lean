import Muxide.Model.AnnexB
/- Muxide.Lemmas.ParamSets — what the parameter-set scans of `extract_avc_config` / `extract_hevc_config` return:
   the first non-empty unit of each wanted type. -/
namespace Muxide

/-- first non-empty unit of `l` whose type (under `ty`) is `k` -/
def firstOfType (ty : Bytes → Nat) (k : Nat) (l : List Bytes) : Option Bytes :=
  (l.filter (· ≠ [])).find? (fun n => ty n = k)

theorem firstOfType_nil (ty : Bytes → Nat) (k : Nat) : firstOfType ty k [] = none := rfl

theorem firstOfType_cons_nil (ty : Bytes → Nat) (k : Nat) (l : List Bytes) :
    firstOfType ty k ([] :: l) = firstOfType ty k l := by simp [firstOfType]

theorem firstOfType_cons (ty : Bytes → Nat) (k : Nat) (n : Bytes) (l : List Bytes) (hn : n ≠ []) :
    firstOfType ty k (n :: l) = if ty n = k then some n else firstOfType ty k l := by
  simp [firstOfType, hn, List.find?_cons]
  split <;> simp_all

/-- the one scan with its early exit is an independent search per slot: a slot that is filled stays as it is,
    an empty one takes the first unit of its type (the exit is taken only when nothing can change any more) -/
theorem avcScan_eq (l : List Bytes) (s p : Option Bytes) :
    avcScan l s p = (s.or (firstOfType h264NalType 7 l), p.or (firstOfType h264NalType 8 l)) := by
  induction l generalizing s p with
  | nil => simp [avcScan, firstOfType_nil]
  | cons n ns ih =>
    by_cases hn : n = []
    · subst hn; simp [avcScan, ih, firstOfType_cons_nil]
    · rw [avcScan, firstOfType_cons _ _ _ _ hn, firstOfType_cons _ _ _ _ hn]
      simp only [hn, if_false]
      by_cases h7 : h264NalType n = 7
      · have h8 : ¬ h264NalType n = 8 := by omega
        cases s <;> cases p <;> simp [h7, ih]
      · by_cases h8 : h264NalType n = 8
        · cases s <;> cases p <;> simp [h8, ih]
        · cases s <;> cases p <;> simp [h7, h8, ih]

theorem hevcScan_eq (l : List Bytes) (v s p : Option Bytes) :
    hevcScan l v s p = (v.or (firstOfType hevcNalType 32 l), s.or (firstOfType hevcNalType 33 l),
      p.or (firstOfType hevcNalType 34 l)) := by
  induction l generalizing v s p with
  | nil => simp [hevcScan, firstOfType_nil]
  | cons n ns ih =>
    by_cases hn : n = []
    · subst hn; simp [hevcScan, ih, firstOfType_cons_nil]
    · rw [hevcScan, firstOfType_cons _ _ _ _ hn, firstOfType_cons _ _ _ _ hn, firstOfType_cons _ _ _ _ hn]
      simp only [hn, if_false]
      by_cases h2 : hevcNalType n = 32
      · cases v <;> cases s <;> cases p <;> simp [h2, ih]
      · by_cases h3 : hevcNalType n = 33
        · cases v <;> cases s <;> cases p <;> simp [h3, ih]
        · by_cases h4 : hevcNalType n = 34
          · cases v <;> cases s <;> cases p <;> simp [h4, ih]
          · cases v <;> cases s <;> cases p <;> simp [h2, h3, h4, ih]

theorem or_firstOfType_ne_nil {ty : Bytes → Nat} {k : Nat} {l : List Bytes} {o : Option Bytes}
    (ho : ∀ x, o = some x → x ≠ []) : ∀ x, o.or (firstOfType ty k l) = some x → x ≠ [] := by
  intro x hx
  rcases Option.or_eq_some_iff.mp hx with h | ⟨_, h⟩
  · exact ho x h
  · simpa using (List.mem_filter.mp (List.mem_of_find?_eq_some h)).2

end Muxide
