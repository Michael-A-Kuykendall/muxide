import Muxide.Lemmas.Bytes
import Muxide.Model.AnnexB
import Muxide.Model.Adts
import Muxide.Spec.Framing
/- Muxide.Lemmas.Framing — helper lemmas for C14 (length-prefix round trip, ADTS field arithmetic). -/
namespace Muxide
open Muxide.Spec

theorem parseLP_flatMap (xs : List Bytes) (hx : ∀ x ∈ xs, x.length < 2^32) (fuel : Nat) (hf : xs.length < fuel) :
    parseLP fuel (xs.flatMap fun n => u32be n.length ++ n) = some xs := by
  induction xs generalizing fuel with
  | nil => cases fuel <;> simp_all [parseLP]
  | cons x xs ih =>
    cases fuel with
    | zero => simp at hf
    | succ fuel =>
      have hx' : x.length < 2^32 := hx x (by simp)
      simp only [List.flatMap_cons, parseLP, List.append_assoc]
      rw [readU32_u32be _ hx']
      have hne : u32be x.length ++ (x ++ List.flatMap (fun n => u32be n.length ++ n) xs) ≠ [] := by simp [u32be]
      simp only [hne, if_false, List.length_append, List.drop_left, List.take_left, Nat.le_add_right, if_true]
      rw [ih (fun y hy => hx y (by simp [hy])) fuel (by simp at hf; omega)]
      simp

theorem flatMap_lp_eq_nil (xs : List Bytes) : (xs.flatMap fun n => u32be n.length ++ n) = [] ↔ xs = [] := by
  cases xs <;> simp [u32be]

/-- the loop of `annexb_to_avcc` and of `hevc_annexb_to_hvcc` (the bodies are the same), given by its two equations;
    `len as u32` is the `% 2 ^ 32` -/
theorem lpLoop_eq (f : List Bytes → Bytes → Bytes) (h0 : ∀ out, f [] out = out)
    (h1 : ∀ n ns out, f (n :: ns) out = if n = [] then f ns out else f ns (out ++ u32be (n.length % 2 ^ 32) ++ n)) :
    ∀ ns out, f ns out = out ++ (ns.filter (· ≠ [])).flatMap fun n => u32be n.length ++ n := by
  intro ns
  induction ns with
  | nil => intro out; rw [h0]; simp
  | cons n ns ih =>
    intro out
    rw [h1]
    by_cases hn : n = []
    · rw [if_pos hn, ih]; simp [hn]
    · rw [if_neg hn, ih, ← u32be_mod]; simp [hn, List.append_assoc]

theorem byteAt_lt (f : Bytes) (i : Nat) : byteAt f i < 256 := UInt8.toNat_lt _

theorem byteAt_eq {f : Bytes} {i : Nat} (h : i < f.length) : byteAt f i = f[i].toNat := by
  unfold byteAt
  rw [List.getD_eq_getElem?_getD, List.getElem?_eq_getElem h]
  rfl

/-- one early return of a chain: the chain succeeds iff this guard does not fire and the rest succeeds -/
theorem guard_ok_iff {ε α : Type} {c : Prop} [Decidable c] {e : ε} {k : Except ε α} {r : α} :
    (if c then .error e else k) = .ok r ↔ ¬ c ∧ k = .ok r := by
  by_cases h : c <;> simp [h]

theorem adtsToRaw_ok_iff (f r : Bytes) :
    adtsToRaw f = .ok r ↔ adtsGuards f ∧ r = (f.take (adtsFrameLength f)).drop (adtsHeaderLen f) := by
  simp only [adtsToRaw, adtsGuards, guard_ok_iff, Except.ok.injEq, and_assoc, Nat.not_lt, Decidable.not_not,
    Nat.not_le, not_or, gt_iff_lt, eq_comm (a := r)]

theorem adtsToRaw_length {f raw : Bytes} (h : adtsToRaw f = .ok raw) :
    raw.length + adtsHeaderLen f = adtsFrameLength f ∧ adtsHeaderLen f < adtsFrameLength f ∧
    adtsFrameLength f ≤ f.length := by
  obtain ⟨⟨_, _, _, _, _, _, _, g8, g9⟩, rfl⟩ := (adtsToRaw_ok_iff f raw).mp h
  rw [List.length_drop, List.length_take, Nat.min_eq_left g9]
  omega

theorem bitField_lt (f : Bytes) (s l : Nat) : bitField f s l < 2 ^ l := Nat.mod_lt _ (Nat.pow_pos (by decide))

theorem bitField_split (f : Bytes) (s l₁ l₂ : Nat) (h : s + l₁ + l₂ ≤ 56 := by decide) :
    bitField f s (l₁ + l₂) = bitField f s l₁ * 2 ^ l₂ + bitField f (s + l₁) l₂ := by
  unfold bitField
  rw [show 56 - s - l₁ = (56 - (s + l₁) - l₂) + l₂ by omega, show 56 - s - (l₁ + l₂) = 56 - (s + l₁) - l₂ by omega,
    Nat.pow_add 2 (56 - (s + l₁) - l₂), ← Nat.div_div_eq_div_mul, Nat.add_comm l₁, mod_pow_add]

theorem beFold_div (bs : Bytes) (a : Nat) : bs.foldl (fun acc b => acc * 256 + b.toNat) a / 256 ^ bs.length = a := by
  induction bs generalizing a with
  | nil => simp
  | cons b bs ih =>
    rw [List.foldl_cons, List.length_cons, Nat.pow_succ, ← Nat.div_div_eq_div_mul, ih]
    have := b.toNat_lt; omega

theorem headerNat_byte {f : Bytes} (h : 7 ≤ f.length) {i : Nat} (hi : i < 7) :
    headerNat f / 256 ^ (6 - i) % 256 = byteAt f i := by
  have hi' : i < (f.take 7).length := by simp; omega
  have e : f.take 7 = (f.take 7).take i ++ (f.take 7)[i] :: (f.take 7).drop (i + 1) := by
    rw [← List.drop_eq_getElem_cons hi', List.take_append_drop]
  have hl : ((f.take 7).drop (i + 1)).length = 6 - i := by simp; omega
  unfold headerNat
  rw [e, List.foldl_append, List.foldl_cons, ← hl, beFold_div, Nat.mul_add_mod_self_right, List.getElem_take,
    byteAt_eq (by omega), Nat.mod_eq_of_lt (UInt8.toNat_lt _)]

/-- a field that lies inside byte `i` of the header: `o` bits into it, `l` bits wide -/
theorem bitField_byte {f : Bytes} (h : 7 ≤ f.length) (i o : Nat) {l : Nat} (hi : i < 7 := by decide)
    (hol : o + l ≤ 8 := by decide) :
    bitField f (8 * i + o) l = byteAt f i / 2 ^ (8 - o - l) % 2 ^ l := by
  unfold bitField
  rw [← headerNat_byte h hi, show 56 - (8 * i + o) - l = 8 * (6 - i) + (8 - o - l) by omega, Nat.pow_add,
    ← Nat.div_div_eq_div_mul, ← div_mod_pow _ (show 8 - o - l + l ≤ 8 by omega), Nat.pow_mul]

section
variable {f : Bytes} (h : 7 ≤ f.length)
include h

theorem adts_sync : bitField f 0 12 = 0xFFF ↔ byteAt f 0 = 0xFF ∧ byteAt f 1 / 16 = 0xF := by
  have := byteAt_lt f 0; have := byteAt_lt f 1
  -- twelve bits: byte 0 and the high half of byte 1
  rw [bitField_split f 0 8 4, bitField_byte h 0 0, bitField_byte h 1 0]
  omega

theorem adts_id : bitField f 12 1 = byteAt f 1 / 8 % 2 := bitField_byte h 1 4

theorem adts_layer : bitField f 13 2 = byteAt f 1 / 2 % 4 := bitField_byte h 1 5

theorem adts_sfi : bitField f 18 4 = byteAt f 2 / 4 % 16 := bitField_byte h 2 2

theorem adtsHeaderBytes_eq : adtsHeaderBytes f = adtsHeaderLen f := by
  have e : bitField f 15 1 = byteAt f 1 / 1 % 2 := bitField_byte h 1 7
  simp only [adtsHeaderBytes, adtsProtectionAbsent, adtsHeaderLen, e, Nat.div_one, decide_eq_true_eq]

theorem adts_channelConfig : bitField f 23 3 = adtsChannelConfig f := by
  -- three bits: the last of byte 2 and the first two of byte 3
  rw [bitField_split f 23 1 2, bitField_byte h 2 7, bitField_byte h 3 0]
  unfold adtsChannelConfig; omega

theorem adtsDeclaredLength_eq : adtsDeclaredLength f = adtsFrameLength f := by
  have := byteAt_lt f 4; have := byteAt_lt f 5
  unfold adtsDeclaredLength adtsFrameLength
  -- thirteen bits: the last two of byte 3, byte 4, the first three of byte 5
  rw [bitField_split f 30 10 3, bitField_split f 30 2 8, bitField_byte h 3 6, bitField_byte h 4 0, bitField_byte h 5 0]
  omega

end

theorem adtsGuards_iff_valid (f : Bytes) : adtsGuards f ↔ adtsValid f = true := by
  simp only [adtsGuards, adtsValid, decide_eq_true_eq, ge_iff_le]
  refine and_congr_right fun h => ?_
  -- a 3-bit field is at most 7: the model's second channel-configuration test is redundant
  have hch : adtsChannelConfig f ≤ 7 := by rw [← adts_channelConfig h]; exact Nat.le_of_lt_succ (bitField_lt f 23 3)
  simp only [adts_sync h, adts_id h, adts_layer h, adts_sfi h, adts_channelConfig h, adtsHeaderBytes_eq h,
    adtsDeclaredLength_eq h, hch, and_true]

end Muxide
