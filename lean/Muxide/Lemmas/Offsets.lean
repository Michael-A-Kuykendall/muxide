import Muxide.Lemmas.Schedule
import Muxide.Spec.Reader
/- Muxide.Lemmas.Offsets — the cursor walk over the schedule (`assignOffsets`), the byte and entry
   accounting of the schedule, the consecutive pieces of a concatenation, the reader's chunk
   walk on the two chunk layouts, the chunk offsets of a track resolved to its payloads, and bounds
   on the offsets a walk assigns. -/
namespace Muxide
open Muxide.Spec

/-- the successive cursor values of a walk that starts at `cur` and advances by `step x` -/
def cursors {α} (step : α → Nat) : List α → Nat → List Nat
  | [], _ => []
  | x :: xs, cur => cur :: cursors step xs (cur + step x)

@[simp] theorem cursors_length {α} (step : α → Nat) (l : List α) (c : Nat) :
    (cursors step l c).length = l.length := by
  induction l generalizing c with
  | nil => rfl
  | cons x xs ih => simp [cursors, ih]

theorem cursors_getElem {α} (step : α → Nat) (l : List α) (c : Nat) (j : Nat) (h : j < l.length) :
    (cursors step l c)[j]'(by simpa using h) = c + ((l.take j).map step).sum := by
  induction l generalizing c j with
  | nil => simp at h
  | cons x xs ih =>
    cases j with
    | zero => simp [cursors]
    | succ j =>
      simp only [cursors, List.getElem_cons_succ, List.take_succ_cons, List.map_cons, List.sum_cons]
      rw [ih (c + step x) j (by simpa using h)]
      omega

theorem cursors_eq_range {α} (step : α → Nat) (l : List α) (c : Nat) :
    cursors step l c = (List.range l.length).map fun j => c + ((l.take j).map step).sum := by
  apply List.ext_getElem (by simp)
  intro i h1 h2
  rw [cursors_getElem step l c i (by simpa using h1)]
  simp

theorem cursors_map {α β} (g : α → β) (step : β → Nat) (l : List α) (c : Nat) :
    cursors step (l.map g) c = cursors (fun x => step (g x)) l c := by
  induction l generalizing c with
  | nil => rfl
  | cons x xs ih => simp [cursors, ih]

theorem cursors_lower {α} (step : α → Nat) (l : List α) (s : Nat) : ∀ c ∈ cursors step l s, s ≤ c := by
  rw [cursors_eq_range]
  intro c hc
  obtain ⟨j, -, rfl⟩ := List.mem_map.mp hc
  exact Nat.le_add_right _ _

/-- pairing a list with its cursor values: later elements start where earlier ones have ended, and
    any relation that holds pairwise on the list holds on the first components -/
theorem cursors_zip_pairwise {α} (R : α → α → Prop) (step : α → Nat) (l : List α) (hR : l.Pairwise R) : ∀ s,
    (l.zip (cursors step l s)).Pairwise (fun p q => R p.1 q.1 ∧ p.2 + step p.1 ≤ q.2) := by
  induction l with
  | nil => intro s; simp [cursors]
  | cons x xs ih =>
    intro s
    simp only [cursors, List.zip_cons_cons, List.pairwise_cons]
    obtain ⟨hx, hxs⟩ := List.pairwise_cons.mp hR
    refine ⟨?_, ih hxs (s + step x)⟩
    intro q hq
    have h1 : q.1 ∈ xs := (List.of_mem_zip hq).1
    have h2 : q.2 ∈ cursors step xs (s + step x) := (List.of_mem_zip hq).2
    exact ⟨hx q.1 h1, cursors_lower step xs _ _ h2⟩

theorem assignOffsets_eq (step : Ent → Nat) (l : List Ent) (c : Nat) :
    assignOffsets step l c =
      (((l.zip (cursors step l c)).filter (fun p => p.1.kind = 0)).map (·.2),
       ((l.zip (cursors step l c)).filter (fun p => !decide (p.1.kind = 0))).map (·.2)) := by
  induction l generalizing c with
  | nil => rfl
  | cons e es ih =>
    simp only [assignOffsets, cursors, List.zip_cons_cons, ih (c + step e)]
    by_cases hk : e.kind = 0 <;> simp [hk]

theorem filter_zip_map_fst {α β} (p : α → Bool) (l : List α) (m : List β) (h : l.length = m.length) :
    ((l.zip m).filter (fun q => p q.1)).map (·.1) = l.filter p := by
  have := List.filter_map (f := Prod.fst) (p := p) (l := l.zip m)
  rw [List.map_fst_zip (by omega)] at this
  exact this.symm

theorem map_pair_eq_zip {α β γ} (g : α → γ) (L : List (α × β)) :
    L.map (fun q => (q.2, g q.1)) = List.zip (L.map (·.2)) ((L.map (·.1)).map g) := by
  rw [List.map_map, List.zip_map']
  rfl

theorem assignOffsets_length (step : Ent → Nat) (l : List Ent) (c : Nat) :
    (assignOffsets step l c).1.length = (l.filter (fun e => e.kind = 0)).length ∧
    (assignOffsets step l c).2.length = (l.filter (fun e => !decide (e.kind = 0))).length := by
  rw [assignOffsets_eq,
    ← filter_zip_map_fst (fun e => decide (e.kind = 0)) l (cursors step l c) (by simp),
    ← filter_zip_map_fst (fun e => !decide (e.kind = 0)) l (cursors step l c) (by simp)]
  simp

/-- how many offsets each track gets depends on the schedule only, not on the step sizes or the start -/
theorem assignOffsets_length_indep (step step' : Ent → Nat) (l : List Ent) (c c' : Nat) :
    (assignOffsets step l c).1.length = (assignOffsets step' l c').1.length ∧
    (assignOffsets step l c).2.length = (assignOffsets step' l c').2.length := by
  simp only [assignOffsets_length, and_self]

theorem schedule_offsets_length (step : Ent → Nat) (vs aus : List Sample) (cur : Nat) :
    (assignOffsets step (schedule vs aus) cur).1.length = vs.length ∧
    (assignOffsets step (schedule vs aus) cur).2.length = aus.length := by
  obtain ⟨h1, h2⟩ := assignOffsets_length step (schedule vs aus) cur
  have hv : ((schedule vs aus).filter (fun e => e.kind = 0)).length = vs.length := by
    simp [((schedule_perm vs aus).filter _).length_eq, List.filter_append, entsOf_filter_kind]
  have := (List.filter_append_perm (fun e => decide (e.kind = 0)) (schedule vs aus)).length_eq
  rw [List.length_append, schedule_length] at this
  omega

theorem entSize_fun (vs aus : List Sample) : entSize vs aus = fun e => (entData vs aus e).length := by
  funext e
  unfold entSize entData
  split
  · cases vs[e.idx]? <;> simp
  · cases aus[e.idx]? <;> simp

theorem entData_flatten_length (vs aus : List Sample) (l : List Ent) :
    (l.map (entData vs aus)).flatten.length = (l.map (entSize vs aus)).sum := by
  rw [List.length_flatten, List.map_map, entSize_fun]
  rfl

theorem entsOf_map {β} (f : Ent → β) (g : Sample → β) (k : Nat) (s : List Sample)
    (h : ∀ i (hi : i < s.length), f ⟨s[i].dts, k, i⟩ = g s[i]) : (entsOf k s).map f = s.map g := by
  apply List.ext_getElem (by simp)
  intro i _ h2
  have hi : i < s.length := by simpa using h2
  simp only [List.getElem_map, entsOf_getElem k s i hi, h i hi]

theorem entsOf_map_entSize_video (vs aus : List Sample) :
    (entsOf 0 vs).map (entSize vs aus) = vs.map (·.data.length) :=
  entsOf_map _ _ 0 vs (fun i hi => by simp [entSize, hi])

theorem entsOf_map_entSize_audio (vs aus : List Sample) :
    (entsOf 1 aus).map (entSize vs aus) = aus.map (·.data.length) :=
  entsOf_map _ _ 1 aus (fun i hi => by simp [entSize, hi])

theorem entsOf_map_entData_video (vs aus : List Sample) : (entsOf 0 vs).map (entData vs aus) = vs.map (·.data) :=
  entsOf_map _ _ 0 vs (fun i hi => by simp [entData, hi])

theorem entsOf_map_entData_audio (vs aus : List Sample) : (entsOf 1 aus).map (entData vs aus) = aus.map (·.data) :=
  entsOf_map _ _ 1 aus (fun i hi => by simp [entData, hi])

theorem schedule_size_sum (vs aus : List Sample) :
    ((schedule vs aus).map (entSize vs aus)).sum =
      (vs.map (·.data.length)).sum + (aus.map (·.data.length)).sum := by
  rw [((schedule_perm vs aus).map (entSize vs aus)).sum_nat]
  simp [entsOf_map_entSize_video, entsOf_map_entSize_audio]

/-- two byte ranges (offset, size) do not overlap -/
def RangesDisjoint (a b : Nat × Nat) : Prop := a.1 + a.2 ≤ b.1 ∨ b.1 + b.2 ≤ a.1

/-- the consecutive pieces (offset, size) of a walk -/
def pieces {α} (step : α → Nat) (l : List α) (c : Nat) : List (Nat × Nat) :=
  (cursors step l c).zip (l.map step)

theorem pieces_cons {α} (step : α → Nat) (x : α) (xs : List α) (c : Nat) :
    pieces step (x :: xs) c = (c, step x) :: pieces step xs (c + step x) := by
  simp [pieces, cursors]

theorem pieces_sizes {α} (step : α → Nat) (l : List α) (c : Nat) :
    (pieces step l c).map (·.2) = l.map step := by
  simp [pieces, List.map_snd_zip]

theorem zip_map_pieces {α} (step : α → Nat) (l : List α) (c : Nat) :
    (l.zip (cursors step l c)).map (fun q => (q.2, step q.1)) = pieces step l c := by
  rw [map_pair_eq_zip step, List.map_snd_zip (by simp), List.map_fst_zip (by simp)]
  rfl

theorem pieces_lower {α} (step : α → Nat) (l : List α) (c : Nat) : ∀ r ∈ pieces step l c, c ≤ r.1 :=
  fun r hr => cursors_lower step l c r.1 (List.of_mem_zip hr).1

theorem pieces_upper {α} (step : α → Nat) (l : List α) (c : Nat) :
    ∀ r ∈ pieces step l c, r.1 + r.2 ≤ c + (l.map step).sum := by
  induction l generalizing c with
  | nil => simp [pieces, cursors]
  | cons x xs ih =>
    intro r hr
    rw [pieces_cons, List.mem_cons] at hr
    rcases hr with rfl | hr
    · simp
    · have := ih _ r hr; simp only [List.map_cons, List.sum_cons]; omega

theorem pieces_disjoint {α} (step : α → Nat) (l : List α) (c : Nat) : (pieces step l c).Pairwise RangesDisjoint := by
  rw [← zip_map_pieces, List.pairwise_map]
  exact (cursors_zip_pairwise (fun _ _ => True) step l (List.pairwise_of_forall fun _ _ => trivial) c).imp
    fun h => Or.inl h.2

theorem pieces_closed {α} (step : α → Nat) (l : List α) (c : Nat) (j : Nat) (h : j < (pieces step l c).length) :
    (pieces step l c)[j].1 = c + (((pieces step l c).take j).map (·.2)).sum := by
  have hl : j < l.length := by simpa [pieces] using h
  rw [List.map_take, pieces_sizes, ← List.map_take]
  simp only [pieces, List.getElem_zip]
  exact cursors_getElem step l c j hl

theorem pieces_consecutive {α} (step : α → Nat) (l : List α) (c : Nat) (j : Nat) (h : j + 1 < (pieces step l c).length) :
    (pieces step l c)[j + 1].1 = (pieces step l c)[j].1 + (pieces step l c)[j].2 := by
  have hj := Nat.lt_of_succ_lt h
  rw [pieces_closed step l c (j + 1) h, pieces_closed step l c j hj, List.take_succ_eq_append_getElem hj,
    List.map_append, List.sum_append, List.map_singleton, List.sum_singleton, Nat.add_assoc]

theorem place_eq (sizes : List Nat) (off : Nat) :
    walkChunks.place sizes off = (cursors id sizes off).zip sizes := by
  induction sizes generalizing off with
  | nil => rfl
  | cons s ss ih => simp [walkChunks.place, cursors, ih]

theorem spcOfChunk_single (n x c : Nat) (h : 1 ≤ c) : spcOfChunk [(1, n, x)] c = n := by
  simp [spcOfChunk, h]

/-- one chunk holding all samples: sample i is at `off + Σ_{j<i} size_j` -/
theorem walkChunks_single_chunk (n off : Nat) (sizes : List Nat) (h : sizes.length ≤ n) :
    walkChunks [(1, n, 1)] [off] 1 sizes = (cursors id sizes off).zip sizes := by
  simp only [walkChunks, spcOfChunk_single n 1 1 (Nat.le_refl 1)]
  rw [List.take_of_length_le h, place_eq]
  simp

/-- one sample per chunk: sample i is at chunk offset i -/
theorem walkChunks_one_per_chunk (offs : List Nat) (c : Nat) (hc : 1 ≤ c) (sizes : List Nat)
    (h : offs.length = sizes.length) :
    walkChunks [(1, 1, 1)] offs c sizes = List.zip offs sizes := by
  induction offs generalizing c sizes with
  | nil => simp [walkChunks]
  | cons o os ih =>
    cases sizes with
    | nil => simp at h
    | cons s ss =>
      simp only [walkChunks, spcOfChunk_single 1 1 c hc]
      simp only [List.take_succ_cons, List.take_zero, List.drop_succ_cons, List.drop_zero]
      rw [ih (c + 1) (by omega) ss (by simpa using h)]
      simp [walkChunks.place]

theorem slice_flatten {α} (f : α → Bytes) (l : List α) (pre post : Bytes) :
    ∀ q ∈ l.zip (cursors (fun e => (f e).length) l pre.length),
      slice (pre ++ (l.map f).flatten ++ post) q.2 (f q.1).length = f q.1 := by
  induction l generalizing pre with
  | nil => simp
  | cons x xs ih =>
    intro q hq
    simp only [cursors, List.zip_cons_cons, List.mem_cons] at hq
    rcases hq with rfl | hq
    · simp [slice]
    · simpa using ih (pre ++ f x) q (by simpa using hq)

/-- When the entries that `p` selects from the walk are exactly the entries of track `tr`, in sample
    order: the offsets pushed for them, paired with the sample sizes of `tr`, are the
    (cursor, size) pairs of the selected entries. -/
theorem track_ranges_eq (vs aus : List Sample) (sched : List Ent) (start : Nat) (p : Ent → Bool) (k : Nat)
    (tr : List Sample) (hfilter : sched.filter p = entsOf k tr)
    (hsize : (entsOf k tr).map (entSize vs aus) = tr.map (·.data.length)) :
    List.zip (((sched.zip (cursors (entSize vs aus) sched start)).filter (fun q => p q.1)).map (·.2))
        (tr.map (·.data.length))
      = ((sched.zip (cursors (entSize vs aus) sched start)).filter (fun q => p q.1)).map
        (fun q => (q.2, entSize vs aus q.1)) := by
  rw [map_pair_eq_zip (entSize vs aus), filter_zip_map_fst p sched (cursors (entSize vs aus) sched start) (by simp),
    hfilter, hsize]

/-- slicing the file at the cursors of the elements `p` selects from a walk, with their sizes, returns
    their payloads, provided the data start where the cursor starts -/
theorem slice_selected {α} (f : α → Bytes) (l : List α) (pre post : Bytes) (p : α → Bool) :
    (List.zip (((l.zip (cursors (fun e => (f e).length) l pre.length)).filter (fun q => p q.1)).map (·.2))
        ((l.filter p).map fun e => (f e).length)).map
      (fun r => slice (pre ++ (l.map f).flatten ++ post) r.1 r.2) = (l.filter p).map f := by
  -- both sides as maps over the selected (element, cursor) pairs; each element is found at its cursor
  rw [← filter_zip_map_fst p l (cursors (fun e => (f e).length) l pre.length) (by simp),
    ← map_pair_eq_zip fun e => (f e).length, List.map_map, List.map_map]
  exact List.map_congr_left fun q hq => slice_flatten f l pre post q (List.mem_filter.mp hq).1

/-- both tracks: slicing the file at each track's chunk offsets, paired with its sample sizes,
    returns that track's payloads in submission order (the entries of a track are what its kind
    selects from the schedule, and they carry its sizes and payloads) -/
theorem assignOffsets_slices (vs aus : List Sample) (pre post : Bytes)
    (hv : vs.Pairwise (fun a b => a.dts ≤ b.dts)) (ha : aus.Pairwise (fun a b => a.dts ≤ b.dts)) :
    let file := pre ++ ((schedule vs aus).map (entData vs aus)).flatten ++ post
    let o := assignOffsets (entSize vs aus) (schedule vs aus) pre.length
    (List.zip o.1 (vs.map (·.data.length))).map (fun r => slice file r.1 r.2) = vs.map (·.data) ∧
    (List.zip o.2 (aus.map (·.data.length))).map (fun r => slice file r.1 r.2) = aus.map (·.data) := by
  intro file o
  have hv' := slice_selected (entData vs aus) (schedule vs aus) pre post (fun e => decide (e.kind = 0))
  have ha' := slice_selected (entData vs aus) (schedule vs aus) pre post (fun e => !decide (e.kind = 0))
  rw [← entSize_fun, schedule_filter_video vs aus hv, entsOf_map_entSize_video, entsOf_map_entData_video] at hv'
  rw [← entSize_fun, (schedule_filter_not_video vs aus).trans (schedule_filter_audio vs aus ha),
    entsOf_map_entSize_audio, entsOf_map_entData_audio] at ha'
  simp only [o]
  rw [assignOffsets_eq]
  exact ⟨hv', ha'⟩

theorem assignOffsets_le_maxPushed (step : Ent → Nat) (es : List Ent) (cur : Nat) :
    (∀ o ∈ (assignOffsets step es cur).1, o ≤ maxPushed step es cur) ∧
    (∀ o ∈ (assignOffsets step es cur).2, o ≤ maxPushed step es cur) := by
  induction es generalizing cur with
  | nil => simp [assignOffsets]
  | cons e es ih =>
    have ⟨ih1, ih2⟩ := ih (cur + step e)
    have h1 := fun o ho => Nat.le_trans (ih1 o ho) (Nat.le_max_right cur _)
    have h2 := fun o ho => Nat.le_trans (ih2 o ho) (Nat.le_max_right cur _)
    simp only [assignOffsets, maxPushed]
    split
    · exact ⟨List.forall_mem_cons.mpr ⟨Nat.le_max_left _ _, h1⟩, h2⟩
    · exact ⟨h1, List.forall_mem_cons.mpr ⟨Nat.le_max_left _ _, h2⟩⟩

theorem maxPushed_le_sum (step : Ent → Nat) (es : List Ent) (cur : Nat) :
    maxPushed step es cur ≤ cur + (es.map step).sum := by
  induction es generalizing cur with
  | nil => exact Nat.zero_le _
  | cons e es ih =>
    have := ih (cur + step e)
    simp only [maxPushed, List.map_cons, List.sum_cons]
    omega

end Muxide
