import Muxide.Model.Mp4
/-
  Muxide.Lemmas.Finalize — `Writer.finalize` and its two layouts in normal form.

  `finalizeStandard` and `finalizeFastStart` branch on the audio track before anything else, so
  a fact proved from their definitions needs four cases. Here each is rewritten once as a single
  chain of guards (`finalizeStandard_eq`, `finalizeFastStart_eq`) over notions that hide the track mix:
  the moov for given chunk offsets, the offsets for a given media start, the media chunks, the
  payload length. Everything else follows from the two equations without unfolding the model:
  what a successful run passed and wrote (`finalizeStandard_ok`, `finalizeFastStart_ok`,
  `finalize_ok`), what cannot come out (`…_ne_panic`, `…_ne_ioErr`), and `finalize` itself as
  its own guards in front of the layout (`finalize_of_finalized`, `finalize_of_fresh`).

  The vocabulary is that of property C08, whose statements are phrased in it: `moovOf`, `offsetsAt`,
  `mediaChunks`, `payloadLen` and `placeholderOffsets` are declared here in the namespace `Muxide.Props.C08`.
-/
namespace Muxide.Props.C08
open Muxide

/-- the moov the writer builds from its state for given (video, audio) chunk offsets -/
def moovOf (w : Writer) (width height : Nat) (md : Option Metadata) (vc : VideoConfig)
    (o : List Nat × List Nat) : Box :=
  let vs := w.vsRev.reverse
  let aus := w.asRev.reverse
  match w.audio with
  | some tr => bMoov width height (Tables.ofSamples vs o.1 1 w.vLastDelta)
      (some (tr, Tables.ofSamples aus o.2 1 w.aLastDelta)) vc md
  | none => bMoov width height
      (Tables.ofSamples vs o.1 (if vs ≠ [] then vs.length else 0) w.vLastDelta) none vc md

/-- the chunk offsets for media data that starts at absolute file position `start`: with audio,
    one chunk per sample following the interleave schedule; without, one chunk for all samples -/
def offsetsAt (w : Writer) (start : Nat) : List Nat × List Nat :=
  let vs := w.vsRev.reverse
  let aus := w.asRev.reverse
  match w.audio with
  | some _ => assignOffsets (entSize vs aus) (schedule vs aus) start
  | none => (if vs ≠ [] then [start] else [], [])

/-- the media data, one chunk of bytes per stored sample, in storage order -/
def mediaChunks (w : Writer) : List Bytes :=
  let vs := w.vsRev.reverse
  let aus := w.asRev.reverse
  match w.audio with
  | some _ => (schedule vs aus).map (entData vs aus)
  | none => vs.map (·.data)

/-- number of media-data bytes -/
def payloadLen (w : Writer) : Nat :=
  match w.audio with
  | some _ => ((w.vsRev.reverse).map (·.data.length)).sum + ((w.asRev.reverse).map (·.data.length)).sum
  | none => ((w.vsRev.reverse).map (·.data.length)).sum

/-- the placeholder chunk offsets of the first fast-start pass: 0,1,2,… in schedule order (with
    audio) resp. the single offset 0 -/
def placeholderOffsets (w : Writer) : List Nat × List Nat :=
  let vs := w.vsRev.reverse
  let aus := w.asRev.reverse
  match w.audio with
  | some _ => assignOffsets (fun _ => 1) (schedule vs aus) 0
  | none => (if vs ≠ [] then [0] else [], [])

end Muxide.Props.C08

namespace Muxide
open Props.C08

/-- bytes in both sample queues. The fast-start layout sizes the mdat box by this number, which
    counts the audio queue even when there is no audio track (it is empty then in every reachable
    state, see `queuedLen_eq`). -/
def queuedLen (w : Writer) : Nat :=
  (w.vsRev.reverse.map (·.data.length)).sum + (w.asRev.reverse.map (·.data.length)).sum

/-- the largest of the chunk offsets `offsetsAt w start`; 0 when there is none -/
def maxOffsetAt (w : Writer) (start : Nat) : Nat :=
  match w.audio with
  | some _ => maxPushed (entSize w.vsRev.reverse w.asRev.reverse) (schedule w.vsRev.reverse w.asRev.reverse) start
  | none => if w.vsRev.reverse ≠ [] then start else 0

/-- position of the first media byte in the fast-start layout: after `ftyp`, the moov (measured
    on the placeholder offsets) and the mdat header -/
def fastStart (w : Writer) (W H : Nat) (md : Option Metadata) (vc : VideoConfig) : Nat :=
  ftypLen + (moovOf w W H md vc (placeholderOffsets w)).ser.length + 8

/-- what the standard layout has handed to the sink when it builds the moov: `ftyp` and the media
    data (no mdat box at all for a writer without audio track and without a video frame) -/
def stdPre (w : Writer) : List Bytes :=
  [bFtyp.ser] ++ (if w.audio = none ∧ w.vsRev = [] then [] else mdatHeader (payloadLen w) ++ mediaChunks w)

theorem payloadLen_le_queuedLen (w : Writer) : payloadLen w ≤ queuedLen w := by
  unfold payloadLen queuedLen
  cases w.audio <;> simp

theorem queuedLen_eq (w : Writer) (hinv : w.audio = none → w.asRev = []) : queuedLen w = payloadLen w := by
  unfold payloadLen queuedLen
  cases ha : w.audio with
  | some tr => rfl
  | none => simp [hinv ha]

theorem finalizeStandard_eq (w : Writer) (W H : Nat) (md : Option Metadata) (vc : VideoConfig) :
    finalizeStandard w W H md vc =
      if 8 + payloadLen w > u32Max then ⟨[bFtyp.ser], .ioErr "MP4 MDAT box size exceeds u32::MAX"⟩
      else if w.audio.isSome ∧ ftypLen + 8 + payloadLen w > u32Max then
        ⟨[bFtyp.ser], .ioErr "MP4 chunk offset exceeds u32::MAX"⟩
      else if moovPanics W H w.vsRev.reverse w.asRev.reverse w.audio.isSome then ⟨stdPre w, .panic⟩
      else ⟨stdPre w ++ [(moovOf w W H md vc (offsetsAt w (ftypLen + 8))).ser], .ok⟩ := by
  cases ha : w.audio with
  | none =>
    -- without an audio track `moovPanics` ignores the audio queue
    have hz : moovPanics W H w.vsRev.reverse [] false = moovPanics W H w.vsRev.reverse w.asRev.reverse false := rfl
    simp only [finalizeStandard, ha, stdPre, payloadLen, mediaChunks, moovOf, offsetsAt, hz]
    by_cases hv : w.vsRev = []
    · simp [hv, u32Max]
    · simp [hv]
  | some tr =>
    simp only [finalizeStandard, ha, stdPre, payloadLen, mediaChunks, moovOf, offsetsAt]
    simp

theorem finalizeFastStart_eq (w : Writer) (W H : Nat) (md : Option Metadata) (vc : VideoConfig) :
    finalizeFastStart w W H md vc =
      if 8 + queuedLen w > u32Max then ⟨[], .ioErr "MP4 MDAT box size exceeds u32::MAX"⟩
      else if moovPanics W H w.vsRev.reverse w.asRev.reverse w.audio.isSome then ⟨[], .panic⟩
      else if maxOffsetAt w (fastStart w W H md vc) > u32Max then
        ⟨[], .ioErr "MP4 chunk offset exceeds u32::MAX"⟩
      else ⟨[bFtyp.ser, (moovOf w W H md vc (offsetsAt w (fastStart w W H md vc))).ser] ++
              mdatHeader (queuedLen w) ++ mediaChunks w, .ok⟩ := by
  cases ha : w.audio with
  | none =>
    have hz : moovPanics W H w.vsRev.reverse [] false = moovPanics W H w.vsRev.reverse w.asRev.reverse false := rfl
    simp only [finalizeFastStart, ha, queuedLen, maxOffsetAt, fastStart, placeholderOffsets, mediaChunks, moovOf,
      offsetsAt, hz]
    by_cases hv : w.vsRev = []
    · simp [hv, u32Max]
    · simp [hv]
  | some tr =>
    simp only [finalizeFastStart, ha, queuedLen, maxOffsetAt, fastStart, placeholderOffsets, mediaChunks, moovOf,
      offsetsAt]
    simp

/-- an outcome a chain of guards does not report, guard by guard -/
theorem res_ite_ne {r : FinRes} {c : Prop} [Decidable c] {a b : FinOut}
    (ha : c → a.res ≠ r) (hb : ¬ c → b.res ≠ r) : (if c then a else b).res ≠ r := by
  by_cases h : c
  · rw [if_pos h]; exact ha h
  · rw [if_neg h]; exact hb h

/-- one step down a chain of guards: a result that is `ok` did not stop at a guard whose
    outcome is not `ok` -/
theorem res_ok_of_ite {c : Prop} [Decidable c] {X Y : FinOut} (hX : X.res ≠ .ok)
    (h : (if c then X else Y).res = .ok) : ¬ c ∧ Y.res = .ok := by
  by_cases hc : c
  · rw [if_pos hc] at h; exact absurd h hX
  · rw [if_neg hc] at h; exact ⟨hc, h⟩

/-- a successful standard layout: the guards it passed and what it handed to the sink -/
structure StandardOk (w : Writer) (W H : Nat) (md : Option Metadata) (vc : VideoConfig) : Prop where
  mdat : 8 + payloadLen w ≤ u32Max
  offset : w.audio.isSome → ftypLen + 8 + payloadLen w ≤ u32Max
  noPanic : moovPanics W H w.vsRev.reverse w.asRev.reverse w.audio.isSome = false
  chunks : (finalizeStandard w W H md vc).chunks =
    stdPre w ++ [(moovOf w W H md vc (offsetsAt w (ftypLen + 8))).ser]

theorem finalizeStandard_ok {w : Writer} {W H : Nat} {md : Option Metadata} {vc : VideoConfig}
    (hok : (finalizeStandard w W H md vc).res = .ok) : StandardOk w W H md vc := by
  rw [finalizeStandard_eq] at hok
  obtain ⟨h1, hok⟩ := res_ok_of_ite (by simp) hok
  obtain ⟨h2, hok⟩ := res_ok_of_ite (by simp) hok
  obtain ⟨h3, -⟩ := res_ok_of_ite (by simp) hok
  exact ⟨Nat.not_lt.mp h1, fun ha => Nat.not_lt.mp fun h => h2 ⟨ha, h⟩, by simpa using h3,
    by rw [finalizeStandard_eq, if_neg h1, if_neg h2, if_neg h3]⟩

/-- a successful fast-start layout: the guards it passed and what it handed to the sink -/
structure FastStartOk (w : Writer) (W H : Nat) (md : Option Metadata) (vc : VideoConfig) : Prop where
  mdat : 8 + queuedLen w ≤ u32Max
  offsets : maxOffsetAt w (fastStart w W H md vc) ≤ u32Max
  noPanic : moovPanics W H w.vsRev.reverse w.asRev.reverse w.audio.isSome = false
  chunks : (finalizeFastStart w W H md vc).chunks =
    [bFtyp.ser, (moovOf w W H md vc (offsetsAt w (fastStart w W H md vc))).ser] ++
      mdatHeader (queuedLen w) ++ mediaChunks w

theorem finalizeFastStart_ok {w : Writer} {W H : Nat} {md : Option Metadata} {vc : VideoConfig}
    (hok : (finalizeFastStart w W H md vc).res = .ok) : FastStartOk w W H md vc := by
  rw [finalizeFastStart_eq] at hok
  obtain ⟨h1, hok⟩ := res_ok_of_ite (by simp) hok
  obtain ⟨h2, hok⟩ := res_ok_of_ite (by simp) hok
  obtain ⟨h3, -⟩ := res_ok_of_ite (by simp) hok
  exact ⟨Nat.not_lt.mp h1, Nat.not_lt.mp h3, by simpa using h2,
    by rw [finalizeFastStart_eq, if_neg h1, if_neg h2, if_neg h3]⟩

/-- counting the audio queue can only add panics -/
theorem moovPanics_of_true {W H : Nat} {vs aus : List Sample} (h : moovPanics W H vs aus true = false)
    (b : Bool) : moovPanics W H vs aus b = false := by
  cases b
  · simp only [moovPanics, Bool.true_and, Bool.or_eq_false_iff] at h
    simp only [moovPanics, h.1.1.1, h.1.2, Bool.false_and, Bool.or_false]
  · exact h

theorem finalizeStandard_ne_panic {w : Writer} {W H : Nat} (md : Option Metadata) (vc : VideoConfig)
    (hp : moovPanics W H w.vsRev.reverse w.asRev.reverse w.audio.isSome = false) :
    (finalizeStandard w W H md vc).res ≠ .panic := by
  rw [finalizeStandard_eq]
  exact res_ite_ne (fun _ => nofun) fun _ => res_ite_ne (fun _ => nofun) fun _ =>
    res_ite_ne (fun h => by rw [hp] at h; cases h) fun _ => nofun

theorem finalizeFastStart_ne_panic {w : Writer} {W H : Nat} (md : Option Metadata) (vc : VideoConfig)
    (hp : moovPanics W H w.vsRev.reverse w.asRev.reverse w.audio.isSome = false) :
    (finalizeFastStart w W H md vc).res ≠ .panic := by
  rw [finalizeFastStart_eq]
  exact res_ite_ne (fun _ => nofun) fun _ => res_ite_ne (fun h => by rw [hp] at h; cases h) fun _ =>
    res_ite_ne (fun _ => nofun) fun _ => nofun

/-- the standard layout reports a size error only when the media data exceed the 32-bit mdat
    box or (with an audio track) the last chunk offset could exceed 32 bits;
    `ftypLen + 8 + payload ≤ u32Max` (`ftypLen = 24`) excludes both -/
theorem finalizeStandard_ne_ioErr {w : Writer} (W H : Nat) (md : Option Metadata) (vc : VideoConfig)
    (hp : ftypLen + 8 + payloadLen w ≤ u32Max) (msg : String) :
    (finalizeStandard w W H md vc).res ≠ .ioErr msg := by
  rw [finalizeStandard_eq]
  exact res_ite_ne (fun h => by simp only [ftypLen] at hp; omega) fun _ => res_ite_ne (fun h => by omega) fun _ =>
    res_ite_ne (fun _ => nofun) fun _ => nofun

/-- the layout stage of `finalize` (after the duration / dimension checks) -/
def layoutOut (w : Writer) (W H : Nat) (md : Option Metadata) (fast : Bool) : FinOut :=
  let vc := w.vConfig.getD (.avc defaultAvc)
  if fast then finalizeFastStart w W H md vc else finalizeStandard w W H md vc

theorem layoutOut_false (w : Writer) (W H : Nat) (md : Option Metadata) :
    layoutOut w W H md false = finalizeStandard w W H md (w.vConfig.getD (.avc defaultAvc)) := by
  unfold layoutOut; exact if_neg Bool.false_ne_true

theorem layoutOut_true (w : Writer) (W H : Nat) (md : Option Metadata) :
    layoutOut w W H md true = finalizeFastStart w W H md (w.vConfig.getD (.avc defaultAvc)) := by
  unfold layoutOut; exact if_pos rfl

theorem layoutOut_ne_panic {w : Writer} {W H : Nat} (md : Option Metadata) (fast : Bool)
    (hp : moovPanics W H w.vsRev.reverse w.asRev.reverse w.audio.isSome = false) :
    (layoutOut w W H md fast).res ≠ .panic := by
  cases fast
  · rw [layoutOut_false]; exact finalizeStandard_ne_panic md _ hp
  · rw [layoutOut_true]; exact finalizeFastStart_ne_panic md _ hp

theorem finalize_of_finalized (w : Writer) (width height : Nat) (md : Option Metadata) (fast : Bool)
    (h : w.finalized = true) :
    w.finalize width height md fast = (w, ⟨[], .ioErr "mp4 writer already finalised"⟩) := by
  simp [Writer.finalize, h]

/-- `finalize` on a writer that is not yet finalized: the checks that precede the layout -/
theorem finalize_of_fresh (w : Writer) (W H : Nat) (md : Option Metadata) (fast : Bool)
    (hf : w.finalized = false) :
    w.finalize W H md fast = ({ w with finalized := true },
      if (durationsOf w.vsRev.reverse w.vLastDelta).sum > u32Max ∨
         (durationsOf w.asRev.reverse w.aLastDelta).sum > u32Max then
        ⟨[], .ioErr "MP4 track duration exceeds u32::MAX media ticks"⟩
      else if W > 65535 ∨ H > 65535 then ⟨[], .ioErr "video width and height must fit in 16 bits"⟩
      else layoutOut w W H md fast) := by
  unfold Writer.finalize
  rw [if_neg (by simp [hf]), apply_ite (Prod.mk _), apply_ite (Prod.mk _)]
  rfl

theorem finalize_fst (w : Writer) (width height : Nat) (md : Option Metadata) (fast : Bool) :
    (w.finalize width height md fast).1 = { w with finalized := true } := by
  cases hf : w.finalized with
  | true => rw [finalize_of_finalized _ _ _ _ _ hf, ← hf]
  | false => rw [finalize_of_fresh _ _ _ _ _ hf]

theorem finalize_ne_panic {w : Writer} {W H : Nat} (md : Option Metadata) (fast : Bool)
    (hp : moovPanics W H w.vsRev.reverse w.asRev.reverse w.audio.isSome = false) :
    (w.finalize W H md fast).2.res ≠ .panic := by
  cases hf : w.finalized with
  | true => rw [finalize_of_finalized _ _ _ _ _ hf]; simp
  | false =>
    rw [finalize_of_fresh _ _ _ _ _ hf]
    exact res_ite_ne (fun _ => nofun) fun _ => res_ite_ne (fun _ => nofun) fun _ => layoutOut_ne_panic md fast hp

/-- what a successful `finalize` says whatever the layout: it ran on a fresh writer, both track
    durations and the dimensions fit their fields, the moov builders did not panic, the media data
    fit the mdat box, and its output is that of the layout stage -/
structure FinalizeOk (w : Writer) (W H : Nat) (md : Option Metadata) (fast : Bool) : Prop where
  fresh : w.finalized = false
  vdur : (durationsOf w.vsRev.reverse w.vLastDelta).sum ≤ u32Max
  adur : (durationsOf w.asRev.reverse w.aLastDelta).sum ≤ u32Max
  width : W ≤ 65535
  height : H ≤ 65535
  out : (w.finalize W H md fast).2 = layoutOut w W H md fast
  noPanic : moovPanics W H w.vsRev.reverse w.asRev.reverse w.audio.isSome = false
  mdat : 8 + payloadLen w ≤ u32Max

theorem finalize_ok {w : Writer} {W H : Nat} {md : Option Metadata} {fast : Bool}
    (hok : (w.finalize W H md fast).2.res = .ok) : FinalizeOk w W H md fast := by
  cases hf : w.finalized with
  | true => rw [finalize_of_finalized _ _ _ _ _ hf] at hok; cases hok
  | false =>
    have e := finalize_of_fresh w W H md fast hf
    rw [e] at hok
    obtain ⟨h1, hok⟩ := res_ok_of_ite (by simp) hok
    obtain ⟨h2, hok⟩ := res_ok_of_ite (by simp) hok
    rw [if_neg h1, if_neg h2] at e
    rw [not_or, Nat.not_lt, Nat.not_lt] at h1 h2
    cases fast
    · have s := finalizeStandard_ok (layoutOut_false .. ▸ hok)
      exact ⟨hf, h1.1, h1.2, h2.1, h2.2, by rw [e], s.noPanic, s.mdat⟩
    · have s := finalizeFastStart_ok (layoutOut_true .. ▸ hok)
      exact ⟨hf, h1.1, h1.2, h2.1, h2.2, by rw [e], s.noPanic,
        Nat.le_trans (Nat.add_le_add_left (payloadLen_le_queuedLen w) 8) s.mdat⟩

end Muxide
