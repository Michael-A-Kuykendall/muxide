import Muxide.Spec.Av1Syntax
import Muxide.Lemmas.Bytes
/-
  Muxide.Lemmas.Av1 — the model's AV1 bit reader against the syntax encoder of `Muxide.Spec.Av1Syntax`.

  The trap: the parser `parseSeqHdrBits` is one `do` block, and `let r ← if c then a else some r; rest` is compiled
  to a join point, `if c then a >>= jp else jp r`.  So the term is in continuation-passing form already: no sub-parser
  `Bits → Option (α × Bits)` can be split off without a case analysis on every `c`, and every unfolding copies the
  rest of the parser into each branch.
  The idea: restate the parser, by unfolding alone, as a chain of blocks (`levelK`, `frameSizeK`, …) that are copies
  of the parser text with the rest abstracted as a continuation `k`, and cut a block with several independent
  decisions further (`parseOpPoint_blocks`, `toolsK_false`): with `k` abstract the cases of one decision do not
  multiply with those of the next.  Each block lemma reads `blockK (the block's piece of the encoder ++ rest) k =
  k values rest`, the bits written as `simp only [List.append_assoc, List.cons_append, List.nil_append]` leaves them.
-/
namespace Muxide.Av1Lemmas
open Muxide Muxide.Spec.Av1

theorem byteBits_length (b : UInt8) : (byteBits b).length = 8 := rfl

/-- most significant bit first -/
theorem byteBits_get (b : UInt8) (j : Nat) (hj : j < 8) :
    (byteBits b)[j]? = some (decide (b.toNat / 2 ^ (7 - j) % 2 = 1)) := by
  match j, hj with
  | 0, _ | 1, _ | 2, _ | 3, _ | 4, _ | 5, _ | 6, _ => rfl
  | 7, _ => rw [Nat.sub_self, Nat.pow_zero, Nat.div_one]; rfl

theorem bitsOf_cons (b : UInt8) (r : Bytes) : bitsOf (b :: r) = byteBits b ++ bitsOf r := rfl

@[simp] theorem rbit_cons (b : Bool) (r : Bits) : rbit (b :: r) = some (b, r) := rfl

@[simp] theorem length_natToBits (w v : Nat) : (natToBits w v).length = w := by
  induction w with
  | zero => rfl
  | succ w ih => simp [natToBits, ih]

theorem rbits_natToBits_mod (w v : Nat) (rest : Bits) :
    rbits w (natToBits w v ++ rest) = some (v % 2 ^ w, rest) := by
  induction w with
  | zero => simp [natToBits, rbits, Nat.mod_one]
  | succ w ih =>
    simp only [natToBits, List.cons_append, rbits, rbit_cons, ih]
    rw [Nat.mod_pow_succ]
    rcases Nat.mod_two_eq_zero_or_one (v / 2 ^ w) with h | h <;> simp [h, Nat.add_comm]

theorem rbits_natToBits (w v : Nat) (h : v < 2 ^ w) (rest : Bits) :
    rbits w (natToBits w v ++ rest) = some (v, rest) := by
  rw [rbits_natToBits_mod, Nat.mod_eq_of_lt h]

theorem rbits_two (b0 b1 : Bool) (r : Bits) : rbits 2 (b0 :: b1 :: r) = some (2 * b2n b0 + b2n b1, r) := by
  cases b0 <;> cases b1 <;> rfl

@[simp] theorem skipBits_natToBits (w v : Nat) (rest : Bits) :
    skipBits w (natToBits w v ++ rest) = some rest := by
  simp [skipBits]

@[simp] theorem skipBits_zero (r : Bits) : skipBits 0 r = some r := by simp [skipBits]

@[simp] theorem skipBits_succ_cons (n : Nat) (b : Bool) (r : Bits) :
    skipBits (n + 1) (b :: r) = skipBits n r := by
  simp [skipBits]

theorem skipUvlcAux_zeros (k : Nat) : ∀ (fuel lz : Nat) (r : Bits), lz + k ≤ 32 →
    skipUvlcAux (fuel + k) (List.replicate k false ++ r) lz = skipUvlcAux fuel r (lz + k) := by
  induction k with
  | zero => intros; rfl
  | succ k ih =>
    intro fuel lz r hl
    have hn : ¬ (lz + 1 > 32) := by omega
    rw [← Nat.add_assoc, List.replicate_succ, List.cons_append, skipUvlcAux, rbit_cons]
    simp only [hn, if_false]
    rw [ih fuel (lz + 1) r (by omega), Nat.add_right_comm, Nat.add_assoc]

/-- `skip_uvlc` on a coded `uvlc()` with any number `z` of leading zeros and any value bits: up to
    `z = 32` the code skips exactly the element, beyond it gives up -/
theorem skipUvlc_encodeUvlc (u : Uvlc) (rest : Bits) :
    skipUvlc (encodeUvlc u ++ rest) = if u.z ≤ 32 then some rest else none := by
  obtain ⟨z, x⟩ := u
  simp only [skipUvlc, encodeUvlc, List.append_assoc, List.cons_append, List.nil_append]
  by_cases hz : z ≤ 32
  · -- `skip_uvlc` runs with fuel 34: `z` units for the zeros, one for the stop bit, the rest unused
    rw [show 34 = (33 - z) + 1 + z by omega, skipUvlcAux_zeros z _ 0 _ (by omega), Nat.zero_add,
      skipUvlcAux, rbit_cons]
    rcases Nat.eq_zero_or_pos z with rfl | h0
    · simp [natToBits]
    · by_cases h32 : z < 32 <;> simp [h0, h32, hz]
  · obtain ⟨k, rfl⟩ : ∃ k, z = 32 + (k + 1) := ⟨z - 33, by omega⟩
    rw [← List.replicate_append_replicate, List.append_assoc, show 34 = 1 + 1 + 32 by rfl,
      skipUvlcAux_zeros 32 _ 0 _ (by omega)]
    simp [List.replicate_succ, skipUvlcAux, hz]

/-- `uvlc()` with exactly 32 leading zeros (value 2^32 − 1): the syntax has NO value bits and the code
    reads none (before the repair in /repo it skipped 32 further bits) -/
theorem skipUvlc_z32 (x : Nat) (rest : Bits) :
    skipUvlc (encodeUvlc ⟨32, x⟩ ++ rest) = some rest := by
  rw [skipUvlc_encodeUvlc, if_pos (Nat.le_refl 32)]

variable {α : Type}

def timingK (tip : Bool) (r : Bits) (k : Bits → Option α) : Option α := do
  let r ← if tip then do
      let r ← skipBits 32 r
      let r ← skipBits 32 r
      let (epi, r) ← rbit r
      if epi then skipUvlc r else some r
    else some r
  k r

def dmiK (tip : Bool) (r : Bits) (k : Bool → Nat → Bits → Option α) : Option α := do
  let (dmip, r) ← if true ∧ ¬ tip then some (false, r) else rbit r
  let (bdl, r) ← if dmip then do
      let (x, r) ← rbits 5 r
      let r ← skipBits 32 r
      let r ← skipBits 5 r
      let r ← skipBits 5 r
      some (x + 1, r)
    else some (0, r)
  k dmip bdl r

def opsK (dmip : Bool) (bdl : Nat) (r : Bits) (k : (Nat × Nat) × Bits → Option α) : Option α := do
  let (iddp, r) ← rbit r
  let (cnt, r) ← rbits 5 r
  let (l0, t0, r) ← parseOpPoints (cnt + 1) 0 r dmip bdl iddp 0 0
  k ((l0, t0), r)

def levelK (reduced : Bool) (r : Bits) (k : (Nat × Nat) × Bits → Option α) : Option α := do
  let ((lvl, tier), r) ← if reduced then do
      let (l, r) ← rbits 5 r
      some ((l, 0), r)
    else do
      let (tip, r) ← rbit r
      let r ← if tip then do
          let r ← skipBits 32 r
          let r ← skipBits 32 r
          let (epi, r) ← rbit r
          if epi then skipUvlc r else some r
        else some r
      let (dmip, r) ← if true ∧ ¬ tip then some (false, r) else rbit r
      let (bdl, r) ← if dmip then do
          let (x, r) ← rbits 5 r
          let r ← skipBits 32 r
          let r ← skipBits 5 r
          let r ← skipBits 5 r
          some (x + 1, r)
        else some (0, r)
      let (iddp, r) ← rbit r
      let (cnt, r) ← rbits 5 r
      let (l0, t0, r) ← parseOpPoints (cnt + 1) 0 r dmip bdl iddp 0 0
      some ((l0, t0), r)
  k ((lvl, tier), r)

theorem levelK_true (r : Bits) (k : (Nat × Nat) × Bits → Option α) :
    levelK true r k = (do let (l, r) ← rbits 5 r; k ((l, 0), r)) := by
  rfl

theorem levelK_false (r : Bits) (k : (Nat × Nat) × Bits → Option α) :
    levelK false r k = (do
      let (tip, r) ← rbit r
      timingK tip r fun r => dmiK tip r fun dmip bdl r => opsK dmip bdl r k) := by
  rfl

def frameSizeK (r : Bits) (k : Bits → Option α) : Option α := do
  let (fwb, r) ← rbits 4 r
  let (fhb, r) ← rbits 4 r
  let (_, r) ← rbits (fwb + 1) r
  let (_, r) ← rbits (fhb + 1) r
  k r

def frameIdK (reduced : Bool) (r : Bits) (k : Bits → Option α) : Option α := do
  let r ← if ¬ reduced then do
      let (fidp, r) ← rbit r
      if fidp then do
        let (_, r) ← rbits 4 r
        let (_, r) ← rbits 3 r
        some r
      else some r
    else some r
  k r

def toolsK (reduced : Bool) (r : Bits) (k : Bits → Option α) : Option α := do
  let r ← if ¬ reduced then do
      let r ← skipBits 4 r
      let (eoh, r) ← rbit r
      let r ← if eoh then skipBits 2 r else some r
      let (scsct, r) ← rbit r
      let (sfsct, r) ← if scsct then some (2, r) else (rbit r).map (fun (b, r) => (b2n b, r))
      let r ← if sfsct > 0 then do
          let (scim, r) ← rbit r
          if ¬ scim then skipBits 1 r else some r
        else some r
      if eoh then skipBits 3 r else some r
    else some r
  k r

theorem parseSeqHdrBits_blocks (r : Bits) :
    parseSeqHdrBits true r = (do
      let (profile, r) ← rbits 3 r
      let (_, r) ← rbit r
      let (reduced, r) ← rbit r
      levelK reduced r fun ((lvl, tier), r) =>
      frameSizeK r fun r =>
      frameIdK reduced r fun r => do
      let r ← skipBits 3 r
      toolsK reduced r fun r => do
      let r ← skipBits 3 r
      let (cc, r) ← parseColorConfig r profile
      let _ ← rbit r
      some (profile, lvl, tier, cc)) := by
  -- `rfl` proves this too, but compares the rest of the parser again in every branch of every block
  dsimp only [parseSeqHdrBits, levelK, frameSizeK, frameIdK, toolsK]

def opTierK (lvl : Nat) (r : Bits) (k : Nat → Bits → Option α) : Option α := do
  let (tier, r) ← if lvl > 7 then (rbit r).map (fun (b, r) => (b2n b, r)) else some (0, r)
  k tier r

def opParamsK (dmip : Bool) (bdl : Nat) (r : Bits) (k : Bits → Option α) : Option α := do
  let r ← if dmip then do
      let (p, r) ← rbit r
      if p then do
        let r ← skipBits bdl r
        let r ← skipBits bdl r
        let (_, r) ← rbit r
        some r
      else some r
    else some r
  k r

def opDelayK (iddp : Bool) (r : Bits) (k : Bits → Option α) : Option α := do
  let r ← if iddp then do
      let (p, r) ← rbit r
      if p then skipBits 4 r else some r
    else some r
  k r

theorem parseOpPoint_blocks (r : Bits) (dmip : Bool) (bdl : Nat) (iddp : Bool) :
    parseOpPoint r dmip bdl iddp = (do
      let r ← skipBits 12 r
      let (lvl, r) ← rbits 5 r
      opTierK lvl r fun tier r =>
      opParamsK dmip bdl r fun r =>
      opDelayK iddp r fun r =>
      some (lvl, tier, r)) := by
  rfl

/-! ### block lemmas

  Where the encoder's piece contains a `match`, the lemma is applied with `Eq.trans`, not rewritten
  with: a `match` is an auxiliary definition of the file it is written in, and equal to the
  encoder's only by unfolding. -/

/-- the `n` the code uses for `decoder_buffer_delay` / `encoder_buffer_delay` -/
def bdlOf : Option DecoderModelInfo → Nat
  | none => 0
  | some d => d.bufferDelayLengthMinus1 + 1

theorem opTierK_encode (lvl : Nat) (tier : Bool) (h : lvl ≤ 7 → tier = false) (rest : Bits)
    (k : Nat → Bits → Option α) :
    opTierK lvl ((if lvl > 7 then [tier] else []) ++ rest) k = k (b2n tier) rest := by
  by_cases h7 : lvl > 7
  · simp [opTierK, h7]
  · simp [opTierK, h7, h (by omega), b2n]

/-- the code only skips the operating parameters, so their values need no bound -/
theorem opParamsK_encode (dm : Option DecoderModelInfo) (odm : Option OpParams) (rest : Bits)
    (k : Bits → Option α) :
    opParamsK dm.isSome (bdlOf dm)
      ((match dm with
        | none => []
        | some d =>
          match odm with
          | none => [false]
          | some p => true :: encodeOpParams (d.bufferDelayLengthMinus1 + 1) p) ++ rest) k
      = k rest := by
  cases dm with
  | none => simp [opParamsK]
  | some d => cases odm <;> simp [opParamsK, bdlOf, encodeOpParams]

theorem opDelayK_encode (iddp : Bool) (idd : Option Nat) (rest : Bits) (k : Bits → Option α) :
    opDelayK iddp
      ((if iddp then
          match idd with
          | none => [false]
          | some x => true :: natToBits 4 x
        else []) ++ rest) k
      = k rest := by
  cases iddp with
  | false => simp [opDelayK]
  | true => cases idd <;> simp [opDelayK]

/-- of `OpPoint.WF` only the range of the level and the inferred tier are used -/
theorem parseOpPoint_encode (dm : Option DecoderModelInfo) (iddp : Bool) (o : OpPoint)
    (h : o.WF dm iddp) (rest : Bits) :
    parseOpPoint (encodeOpPoint dm iddp o ++ rest) dm.isSome (bdlOf dm) iddp
      = some (o.seqLevelIdx, b2n o.seqTier, rest) := by
  obtain ⟨-, h2, h3, -⟩ := h
  simp only [parseOpPoint_blocks, encodeOpPoint, List.append_assoc, skipBits_natToBits,
    rbits_natToBits 5 _ h2, opTierK_encode _ _ h3, Option.bind_eq_bind, Option.bind_some]
  exact (opParamsK_encode dm _ _ _).trans (opDelayK_encode iddp _ rest _)

theorem parseOpPoints_tail (dm : Option DecoderModelInfo) (iddp : Bool) (ops : List OpPoint)
    (h : ∀ o ∈ ops, o.WF dm iddp) (rest : Bits) (i l0 t0 : Nat) :
    parseOpPoints ops.length (i + 1) (ops.flatMap (encodeOpPoint dm iddp) ++ rest)
        dm.isSome (bdlOf dm) iddp l0 t0 = some (l0, t0, rest) := by
  induction ops generalizing i with
  | nil => rfl
  | cons o ops ih =>
    simp only [List.length_cons, List.flatMap_cons, List.append_assoc, parseOpPoints]
    rw [parseOpPoint_encode dm iddp o (h o (by simp))]
    exact ih (fun o ho => h o (by simp [ho])) (i + 1)

/-- `initial_display_delay_present_flag`, `operating_points_cnt_minus_1` and the loop: the code keeps
    the level and tier of operating point 0 -/
theorem opsK_encode (dm : Option DecoderModelInfo) (iddp : Bool) (o : OpPoint) (ops : List OpPoint)
    (h32 : ops.length < 32) (h : ∀ o' ∈ o :: ops, o'.WF dm iddp) (rest : Bits)
    (k : (Nat × Nat) × Bits → Option α) :
    opsK dm.isSome (bdlOf dm) (iddp :: (natToBits 5 ops.length ++
        ((o :: ops).flatMap (encodeOpPoint dm iddp) ++ rest))) k
      = k ((o.seqLevelIdx, b2n o.seqTier), rest) := by
  simp [opsK, rbits_natToBits 5 _ h32, parseOpPoints, parseOpPoint_encode dm iddp o (h o (by simp)),
    parseOpPoints_tail dm iddp ops (fun o ho => h o (by simp [ho]))]

theorem timingK_false (r : Bits) (k : Bits → Option α) : timingK false r k = k r := rfl

theorem timingK_encode (t : TimingInfo) (h : t.WF) (rest : Bits) (k : Bits → Option α) :
    timingK true (encodeTimingInfo t ++ rest) k = k rest := by
  obtain ⟨nu, ts, ntpp⟩ := t
  cases ntpp with
  | none => simp [timingK, encodeTimingInfo]
  | some u => simp [timingK, encodeTimingInfo, skipUvlc_encodeUvlc, show u.z ≤ 32 by have := h.2.2.1; omega]

theorem dmiK_notip (r : Bits) (k : Bool → Nat → Bits → Option α) : dmiK false r k = k false 0 r := rfl

theorem dmiK_tip_none (r : Bits) (k : Bool → Nat → Bits → Option α) :
    dmiK true (false :: r) k = k false 0 r := rfl

theorem dmiK_tip_some (d : DecoderModelInfo) (h : d.WF) (rest : Bits)
    (k : Bool → Nat → Bits → Option α) :
    dmiK true (true :: (encodeDecoderModelInfo d ++ rest)) k
      = k true (d.bufferDelayLengthMinus1 + 1) rest := by
  simp [dmiK, encodeDecoderModelInfo, rbits_natToBits 5 _ h.1]

/-- the `else` branch of `if (reduced_still_picture_header)` -/
theorem levelK_false_encode (s : SeqHdr) (h : s.WF) (rest : Bits)
    (k : (Nat × Nat) × Bits → Option α) :
    levelK false (encodeOperatingInfo s ++ rest) k = k ((s.seqLevelIdx0, s.seqTier0), rest) := by
  obtain ⟨-, ht, hd, h1, h32, hops, -⟩ := h
  rw [levelK_false]
  unfold encodeOperatingInfo SeqHdr.seqLevelIdx0 SeqHdr.seqTier0
  generalize s.decoderModel = dm at *
  generalize s.timing = tm at *
  generalize s.opPoints = ops at *
  cases ops with
  | nil => simp at h1
  | cons o ops =>
    have hk := opsK_encode dm s.initialDisplayDelayPresentFlag o ops
      (by simp only [List.length_cons] at h32; omega) hops rest k
    cases tm with
    | none =>
      simp only at ht
      subst ht
      simpa [timingK_false, dmiK_notip, bdlOf] using hk
    | some t =>
      simp only at ht
      cases dm with
      | none => simpa [timingK_encode t ht, dmiK_tip_none, bdlOf] using hk
      | some d => simpa [timingK_encode t ht, dmiK_tip_some d hd, bdlOf] using hk

theorem frameSizeK_encode (s : SeqHdr) (h : s.WF) (rest : Bits) (k : Bits → Option α) :
    frameSizeK (encodeFrameSize s ++ rest) k = k rest := by
  obtain ⟨-, -, -, -, -, -, h1, h2, h3, h4, -⟩ := h
  simp [frameSizeK, encodeFrameSize, rbits_natToBits _ _ h1, rbits_natToBits _ _ h2,
    rbits_natToBits _ _ h3, rbits_natToBits _ _ h4]

theorem frameIdK_true (r : Bits) (k : Bits → Option α) : frameIdK true r k = k r := rfl

theorem frameIdK_false_encode (s : SeqHdr) (h : s.WF) (rest : Bits) (k : Bits → Option α) :
    frameIdK false (encodeFrameId s ++ rest) k = k rest := by
  obtain ⟨-, -, -, -, -, -, -, -, -, -, h1, -⟩ := h
  unfold encodeFrameId
  generalize s.frameId = f at *
  cases f with
  | none => simp [frameIdK]
  | some f => simp [frameIdK, rbits_natToBits _ _ h1.1, rbits_natToBits _ _ h1.2]

theorem toolsK_true (r : Bits) (k : Bits → Option α) : toolsK true r k = k r := rfl

/-- `seq_choose_screen_content_tools` … `seq_force_integer_mv`: the part of `toolsK` that does not
    depend on `enable_order_hint` -/
def screenK (r : Bits) (k : Bits → Option α) : Option α := do
  let (scsct, r) ← rbit r
  let (sfsct, r) ← if scsct then some (2, r) else (rbit r).map (fun (b, r) => (b2n b, r))
  let r ← if sfsct > 0 then do
      let (scim, r) ← rbit r
      if ¬ scim then skipBits 1 r else some r
    else some r
  k r

theorem toolsK_false (r : Bits) (k : Bits → Option α) :
    toolsK false r k = (do
      let r ← skipBits 4 r
      let (eoh, r) ← rbit r
      let r ← if eoh then skipBits 2 r else some r
      screenK r fun r => do
      let r ← if eoh then skipBits 3 r else some r
      k r) := by
  rfl

theorem natToBits_one (v : Nat) : natToBits 1 v = [decide (v % 2 = 1)] := by
  simp [natToBits]

/-- of `ToolsWF` only the first clause matters: the code branches on `seq_force_screen_content_tools`
    and skips the rest -/
theorem screenK_encode (csct cim : Bool) (fsct fim : Nat)
    (h : if csct then fsct = 2 else fsct < 2) (rest : Bits) (k : Bits → Option α) :
    screenK (csct :: ((if csct then [] else natToBits 1 fsct) ++
        ((if fsct > 0 then cim :: (if cim then [] else natToBits 1 fim) else []) ++ rest))) k
      = k rest := by
  cases csct
  · simp only [Bool.false_eq_true, if_false] at h
    obtain rfl | rfl : fsct = 0 ∨ fsct = 1 := by omega
    · simp [screenK, natToBits_one, b2n]
    · cases cim <;> simp [screenK, natToBits_one, b2n]
  · simp only [if_true] at h
    subst h
    cases cim <;> simp [screenK, natToBits_one, b2n]

theorem toolsK_false_encode (s : SeqHdr) (h : s.ToolsWF) (rest : Bits) (k : Bits → Option α) :
    toolsK false (encodeInterTools s ++ rest) k = k rest := by
  rw [toolsK_false]
  unfold encodeInterTools
  cases s.orderHint <;>
    simp only [List.append_assoc, List.cons_append, List.nil_append, skipBits_succ_cons, skipBits_zero,
      rbit_cons, skipBits_natToBits, screenK_encode _ _ _ _ h.1, Option.bind_eq_bind, Option.bind_some,
      Bool.false_eq_true, if_true, if_false]

def ccHeadK (profile : Nat) (r : Bits) (k : Bool → Bool → Bool → Bits → Option α) : Option α := do
  let (hbd, r) ← rbit r
  let (tw, r) ← if profile = 2 ∧ hbd then rbit r else some (false, r)
  let (mono, r) ← if profile = 1 then some (false, r) else rbit r
  k hbd tw mono r

def ccDescK (r : Bits) (k : Nat → Nat → Nat → Bits → Option α) : Option α := do
  let (cdp, r) ← rbit r
  let ((cp, tc, mc), r) ← if cdp then do
      let (cp, r) ← rbits 8 r
      let (tc, r) ← rbits 8 r
      let (mc, r) ← rbits 8 r
      some ((cp, tc, mc), r)
    else some ((2, 2, 2), r)
  k cp tc mc r

def ccSubK (profile bitDepth : Nat) (mono : Bool) (cp tc mc : Nat) (r : Bits)
    (k : Bool → Bool → Bits → Option α) : Option α := do
  let ((sx, sy), r) ←
    if mono then do
      let (_, r) ← rbit r
      some ((true, true), r)
    else if cp = 1 ∧ tc = 13 ∧ mc = 0 then some ((false, false), r)
    else do
      let (_, r) ← rbit r
      if profile = 0 then some ((true, true), r)
      else if profile = 1 then some ((false, false), r)
      else if bitDepth = 12 then do
        let (sx, r) ← rbit r
        let (sy, r) ← if sx then rbit r else some (false, r)
        some ((sx, sy), r)
      else some ((true, false), r)
  k sx sy r

def ccTailK (mono sx sy : Bool) (r : Bits) (k : Nat → Bits → Option α) : Option α := do
  let (csp, r) ← if sx ∧ sy then rbits 2 r else some (0, r)
  let r ← if ¬ mono then (rbit r).map (·.2) else some r
  k csp r

theorem parseColorConfig_blocks (r : Bits) (profile : Nat) :
    parseColorConfig r profile =
      ccHeadK profile r fun hbd tw mono r =>
      ccDescK r fun cp tc mc r =>
      ccSubK profile (if profile = 2 ∧ tw then 12 else if hbd then 10 else 8) mono cp tc mc r
        fun sx sy r =>
      ccTailK mono sx sy r fun csp r =>
      some (⟨hbd, tw, mono, sx, sy, csp⟩, r) := by
  rfl

theorem ccHeadK_encode (p : Nat) (hbd tw mono : Bool) (h1 : tw = true → p = 2 ∧ hbd = true)
    (h2 : p = 1 → mono = false) (rest : Bits) (k : Bool → Bool → Bool → Bits → Option α) :
    ccHeadK p (hbd :: ((if p = 2 ∧ hbd then [tw] else []) ++ ((if p ≠ 1 then [mono] else []) ++ rest))) k
      = k hbd tw mono rest := by
  have ht : ¬ (p = 2 ∧ hbd = true) → tw = false := fun hn => by
    cases tw
    · rfl
    · exact absurd (h1 rfl) hn
  by_cases hA : p = 2 ∧ hbd = true <;> by_cases hB : p = 1 <;> simp [ccHeadK, hA, hB, ht, h2]

theorem ccDescK_encode (c : ColorConfig) (p : Nat) (h : c.WF p) (rest : Bits)
    (k : Nat → Nat → Nat → Bits → Option α) :
    ccDescK
      ((match c.colorDescription with
        | none => [false]
        | some d =>
          true :: (natToBits 8 d.colorPrimaries ++ natToBits 8 d.transferCharacteristics ++
                   natToBits 8 d.matrixCoefficients)) ++ rest) k
      = k c.colorPrimaries c.transferCharacteristics c.matrixCoefficients rest := by
  obtain ⟨-, -, h3, -⟩ := h
  unfold ColorConfig.colorPrimaries ColorConfig.transferCharacteristics ColorConfig.matrixCoefficients
  generalize c.colorDescription = cd at *
  cases cd with
  | none => simp [ccDescK]
  | some d =>
    simp [ccDescK, rbits_natToBits _ _ h3.1, rbits_natToBits _ _ h3.2.1, rbits_natToBits _ _ h3.2.2]

theorem ccSubK_mono (p bd cp tc mc : Nat) (b : Bool) (r : Bits) (k : Bool → Bool → Bits → Option α) :
    ccSubK p bd true cp tc mc (b :: r) k = k true true r := by
  simp [ccSubK]

theorem ccSubK_srgb (p bd : Nat) (r : Bits) (k : Bool → Bool → Bits → Option α) :
    ccSubK p bd false 1 13 0 r k = k false false r := by
  simp [ccSubK]

theorem ccSubK_other (p bd cp tc mc : Nat) (hs : ¬ (cp = 1 ∧ tc = 13 ∧ mc = 0)) (cr sx sy : Bool)
    (h : if p = 0 then sx = true ∧ sy = true
         else if p = 1 then sx = false ∧ sy = false
         else if bd = 12 then (sx = false → sy = false)
         else sx = true ∧ sy = false)
    (rest : Bits) (k : Bool → Bool → Bits → Option α) :
    ccSubK p bd false cp tc mc
      (cr :: ((if p = 0 then [] else if p = 1 then []
               else if bd = 12 then sx :: (if sx then [sy] else []) else []) ++ rest)) k
      = k sx sy rest := by
  simp only [ccSubK, Bool.false_eq_true, if_false, hs]
  by_cases p0 : p = 0
  · simp only [p0, if_true] at h
    simp [p0, h.1, h.2]
  · by_cases p1 : p = 1
    · simp only [p1, if_true] at h
      simp [p1, h.1, h.2]
    · by_cases b12 : bd = 12
      · simp only [p0, p1, b12, if_true, if_false] at h
        cases sx
        · simp [p0, p1, b12, h rfl]
        · simp [p0, p1, b12]
      · simp only [p0, p1, b12, if_false] at h
        simp [p0, p1, b12, h.1, h.2]

theorem ccTailK_color (sx sy : Bool) (csp : Nat) (h : csp < 2 ^ 2)
    (h0 : ¬ (sx = true ∧ sy = true) → csp = 0) (suv : Bool) (rest : Bits)
    (k : Nat → Bits → Option α) :
    ccTailK false sx sy ((if sx ∧ sy then natToBits 2 csp else []) ++ suv :: rest) k = k csp rest := by
  by_cases hxy : sx = true ∧ sy = true
  · simp [ccTailK, hxy, rbits_natToBits 2 csp h]
  · simp [ccTailK, hxy, h0 hxy]

/-- monochrome: the code reads a 2-bit `chroma_sample_position` that the syntax does not have
    (and, correctly, no `separate_uv_delta_q`) -/
theorem ccTailK_mono (r : Bits) (k : Nat → Bits → Option α) :
    ccTailK true true true r k = (do let (csp, r) ← rbits 2 r; k csp r) := by
  rfl

/-- `color_config()`, every branch.  For `mono_chrome = 1` the code consumes two bits more than the
    syntax has and reports them as `chroma_sample_position`. -/
theorem parseColorConfig_encode (p : Nat) (c : ColorConfig) (h : c.WF p) (rest : Bits) :
    parseColorConfig (encodeColorConfig p c ++ rest) p =
      if c.monoChrome then do
        let (csp, r) ← rbits 2 rest
        some ({ c.toCfg with csp := csp }, r)
      else some (c.toCfg, rest) := by
  have hw := h
  obtain ⟨h1, h2, -, h4, h5⟩ := h
  rw [parseColorConfig_blocks]
  unfold encodeColorConfig
  simp only [List.append_assoc, List.cons_append, List.nil_append]
  rw [ccHeadK_encode p _ _ _ h1 h2]
  refine (ccDescK_encode c p hw _ _).trans ?_
  cases hm : c.monoChrome with
  | true =>
    simp only [hm, if_true] at h5 ⊢
    rw [List.cons_append, ccSubK_mono, ccTailK_mono]
    simp [ColorConfig.toCfg, hm, h5.1, h5.2.1]
  | false =>
    simp only [hm, Bool.false_eq_true, if_false] at h5 ⊢
    by_cases hs : c.isSrgb
    · simp only [hs, if_true] at h5 ⊢
      obtain ⟨e1, e2, e3⟩ := hs
      obtain ⟨-, g2, g3, g4⟩ := h5
      rw [e1, e2, e3, ccSubK_srgb]
      refine (ccTailK_color false false _ h4 (fun _ => g4) c.separateUvDeltaQ rest _).trans ?_
      simp [ColorConfig.toCfg, hm, g2, g3]
    · simp only [hs, if_false, List.append_assoc, List.cons_append, List.nil_append] at h5 ⊢
      have hb : (if p = 2 ∧ c.twelveBit = true then 12 else if c.highBitdepth = true then 10 else 8)
          = c.bitDepth p := rfl
      rw [hb, ccSubK_other p _ _ _ _ hs c.colorRange c.subsamplingX c.subsamplingY h5.1,
        ccTailK_color c.subsamplingX c.subsamplingY c.chromaSamplePosition h4 h5.2]
      simp [ColorConfig.toCfg, hm]

theorem _root_.Muxide.Spec.Av1.SeqHdr.WF.color {s : SeqHdr} (h : s.WF) : s.color.WF s.seqProfile :=
  h.2.2.2.2.2.2.2.2.2.2.2.2

theorem parseSeqHdrBits_preColor (s : SeqHdr) (h : s.WF) (pad : Bits) :
    parseSeqHdrBits true (encodeSeqHdr s ++ pad) = (do
      let (cc, r) ← parseColorConfig
        (encodeColorConfig s.seqProfile s.color ++ s.filmGrainParamsPresent :: pad) s.seqProfile
      let _ ← rbit r
      some (s.seqProfile, s.seqLevelIdx0, s.seqTier0, cc)) := by
  have hw := h
  obtain ⟨hp, -, -, -, -, hops, -, -, -, -, -, hr, -⟩ := h
  rw [parseSeqHdrBits_blocks]
  unfold encodeSeqHdr
  simp only [List.append_assoc, List.cons_append, List.nil_append, rbits_natToBits 3 _ hp, rbit_cons,
    Option.bind_eq_bind, Option.bind_some]
  cases hred : s.reducedStillPictureHeader with
  | true =>
    simp only [hred, if_true] at hr
    obtain ⟨-, -, -, ⟨l, hl⟩, -⟩ := hr
    have hl5 : l < 2 ^ 5 := (hops ⟨0, l, false, none, none⟩ (by simp [hl])).2.1
    have e0 : s.seqLevelIdx0 = l := by simp [SeqHdr.seqLevelIdx0, hl]
    have e1 : s.seqTier0 = 0 := by simp [SeqHdr.seqTier0, hl, b2n]
    simp only [if_true, List.nil_append, e0, e1, levelK_true, rbits_natToBits 5 l hl5, frameSizeK_encode s hw,
      frameIdK_true, toolsK_true, skipBits_succ_cons, skipBits_zero, Option.bind_eq_bind, Option.bind_some]
  | false =>
    simp only [hred, Bool.false_eq_true, if_false] at hr
    simp only [Bool.false_eq_true, if_false, levelK_false_encode s hw, frameSizeK_encode s hw,
      frameIdK_false_encode s hw, toolsK_false_encode s hr, skipBits_succ_cons, skipBits_zero,
      Option.bind_some]

/-- **the parser on every well-formed header followed by any bits.**  Unless `mono_chrome = 1` it
    returns the header's fields.  For a monochrome header it takes `film_grain_params_present` and the
    bit after the header as `chroma_sample_position`, and then needs one bit more (for what it takes
    to be `film_grain_params_present`). -/
theorem parseSeqHdrBits_encode (s : SeqHdr) (h : s.WF) (pad : Bits) :
    parseSeqHdrBits true (encodeSeqHdr s ++ pad) =
      if s.monochrome then
        match pad with
        | b0 :: _ :: _ =>
          some (s.seqProfile, s.seqLevelIdx0, s.seqTier0,
            { s.color.toCfg with csp := 2 * b2n s.filmGrainParamsPresent + b2n b0 })
        | _ => none
      else some s.fields := by
  rw [parseSeqHdrBits_preColor s h, parseColorConfig_encode _ _ h.color]
  unfold SeqHdr.monochrome
  cases s.color.monoChrome with
  | false => rfl
  | true =>
    match pad with
    | [] => rfl
    | [_] => simp [rbits_two, rbit]
    | _ :: _ :: _ => simp [rbits_two]

theorem lebBytes_length (gs : List Nat) : (lebBytes gs).length = gs.length := by
  fun_induction lebBytes gs <;> simp_all

theorem readLeb128Aux_lebBytes (gs : List Nat) : ∀ (fuel v sh i : Nat) (rest : Bytes),
    gs ≠ [] → gs.length ≤ fuel → (∀ g ∈ gs, g < 128) →
    readLeb128Aux fuel (lebBytes gs ++ rest) v sh i
      = some (v + lebValue gs * 2 ^ sh, i + gs.length) := by
  induction gs with
  | nil => intro _ _ _ _ _ h; exact absurd rfl h
  | cons g gs ih =>
    intro fuel v sh i rest _ hf hg
    obtain ⟨f, rfl⟩ : ∃ f, fuel = f + 1 := ⟨fuel - 1, by simp only [List.length_cons] at hf; omega⟩
    have hg0 : g < 128 := hg g (by simp)
    cases gs with
    | nil =>
      simp [lebBytes, readLeb128Aux, lebValue, UInt8.toNat_ofNat_of_lt' (show g < 256 by omega), hg0,
        Nat.mod_eq_of_lt hg0]
    | cons g' gs =>
      -- a group with the continuation bit set
      simp only [lebBytes, List.cons_append, readLeb128Aux, UInt8.toNat_ofNat_of_lt' (show g + 128 < 256 by omega),
        Nat.add_mod_right, Nat.mod_eq_of_lt hg0, Nat.not_lt.mpr (Nat.le_add_left 128 g), if_false]
      rw [ih f _ (sh + 7) (i + 1) rest (by simp) (Nat.le_of_succ_le_succ hf)
        (fun x hx => hg x (by simp [hx]))]
      -- the next group weighs `2 ^ 7` times the current one
      have ea : lebValue (g' :: gs) * 2 ^ (sh + 7) = 128 * (lebValue (g' :: gs) * 2 ^ sh) := by
        rw [Nat.pow_add, ← Nat.mul_assoc, Nat.mul_comm]
      rw [ea, show lebValue (g :: g' :: gs) = g + 128 * lebValue (g' :: gs) from rfl, Nat.add_mul,
        Nat.mul_assoc, Nat.add_assoc v, Nat.add_assoc i, Nat.add_comm 1]
      rfl

/-- `read_leb128` decodes every `leb128()` of 1..8 bytes (minimal or not) -/
theorem readLeb128_lebBytes (gs : List Nat) (h : LebWF gs) (rest : Bytes) :
    readLeb128 (lebBytes gs ++ rest) = some (lebValue gs, gs.length) := by
  obtain ⟨h1, h8, hg⟩ := h
  have := readLeb128Aux_lebBytes gs 8 0 0 0 rest (by intro h0; simp [h0] at h1) h8 hg
  simpa [readLeb128] using this

theorem lebValue_leb128Groups (n : Nat) : lebValue (leb128Groups n) = n := by
  fun_induction leb128Groups n with
  | case1 n h => simp [lebValue]
  | case2 n h ih => simp only [lebValue, ih]; omega

theorem leb128Groups_lt (n : Nat) : ∀ g ∈ leb128Groups n, g < 128 := by
  fun_induction leb128Groups n with
  | case1 n h => simpa using h
  | case2 n h ih =>
    intro g hg
    simp only [List.mem_cons] at hg
    rcases hg with rfl | hg
    · omega
    · exact ih g hg

theorem leb128Groups_length (n k : Nat) (hn : n < 128 ^ (k + 1)) :
    (leb128Groups n).length ≤ k + 1 := by
  fun_induction leb128Groups n generalizing k with
  | case1 n h => simp
  | case2 n h ih =>
    cases k with
    | zero => omega
    | succ k =>
      have := ih k (by rw [Nat.pow_succ] at hn; omega)
      simp only [List.length_cons]
      omega

theorem leb128Groups_ne_nil (n : Nat) : 1 ≤ (leb128Groups n).length := by
  rw [leb128Groups]; split <;> simp

theorem lebWF_leb128Groups (n : Nat) (h : n < 2 ^ 56) : LebWF (leb128Groups n) :=
  ⟨leb128Groups_ne_nil n, leb128Groups_length n 7 (by simpa using h), leb128Groups_lt n⟩

theorem headerByte_fields (o : Obu) (ht : o.obuType < 16) :
    o.headerByte.toNat < 128 ∧ o.headerByte.toNat / 8 % 16 = o.obuType ∧
    o.headerByte.toNat / 4 % 2 = b2n o.extension.isSome ∧ o.headerByte.toNat / 2 % 2 = 1 := by
  have hx : b2n o.extension.isSome ≤ 1 := by cases o.extension.isSome <;> decide
  have hr : b2n o.reservedBit ≤ 1 := by cases o.reservedBit <;> decide
  -- the byte `0 tttt x 1 r` as a number
  rw [show o.headerByte.toNat = o.obuType * 8 + b2n o.extension.isSome * 4 + 2 + b2n o.reservedBit by
    have e4 : (if o.extension.isSome then 4 else 0) = b2n o.extension.isSome * 4 := by
      cases o.extension.isSome <;> rfl
    rw [Obu.headerByte, e4]
    exact UInt8.toNat_ofNat_of_lt' (show _ < 256 by omega)]
  omega

theorem parseObuHeader_obu (o : Obu) (h : o.WF) (post : Bytes) :
    parseObuHeader (o.bytes ++ post)
      = some ⟨o.obuType, o.extension.isSome, o.headerSize, o.payload.length⟩ := by
  obtain ⟨ht, hl, hv⟩ := h
  obtain ⟨a1, a2, a3, a4⟩ := headerByte_fields o ht
  have hne : o.sizeGroups ≠ [] := fun h0 => by simp [LebWF, h0] at hl
  cases hx : o.extension <;> simp only [hx, Option.isSome_none, Option.isSome_some, b2n] at a3 <;>
    simp [parseObuHeader, Obu.bytes, Obu.headerSize, hx, a1, a2, a3, a4, readLeb128_lebBytes _ hl, hv,
      lebBytes_length, hne]

def obuInfo (o : Obu) : ObuInfo := ⟨o.obuType, o.extension.isSome, o.headerSize, o.payload.length⟩

theorem obu_bytes_length (o : Obu) : o.bytes.length = o.headerSize + o.payload.length := by
  unfold Obu.bytes Obu.headerSize
  cases o.extension <;> simp [lebBytes_length] <;> omega

theorem obusAux_obu (o : Obu) (h : o.WF) (post : Bytes) (fuel : Nat) :
    obusAux (fuel + 1) (o.bytes ++ post) = (obuInfo o, o.bytes) :: obusAux fuel post := by
  have ht : o.headerSize + o.payload.length = o.bytes.length := (obu_bytes_length o).symm
  have hne : o.bytes ++ post ≠ [] := by simp [Obu.bytes]
  simp [obusAux, hne, parseObuHeader_obu o h post, ObuInfo.totalSize, obuInfo, ht]

theorem extractAv1Aux_obus (pre : List Obu) (sh : Obu) (post : Bytes)
    (hpre : ∀ o ∈ pre, o.WF ∧ o.obuType ≠ 1) (hsh : sh.WF) (ht : sh.obuType = 1) :
    ∀ fuel, pre.length + 1 ≤ fuel →
      extractAv1Aux (obusAux fuel (pre.flatMap Obu.bytes ++ (sh.bytes ++ post)))
        = parseSequenceHeader sh.bytes sh.headerSize := by
  induction pre with
  | nil =>
    intro fuel hf
    obtain ⟨f, rfl⟩ : ∃ f, fuel = f + 1 := ⟨fuel - 1, by omega⟩
    simp [obusAux_obu sh hsh, extractAv1Aux, obuInfo, ht]
  | cons o pre ih =>
    intro fuel hf
    obtain ⟨f, rfl⟩ : ∃ f, fuel = f + 1 := ⟨fuel - 1, by omega⟩
    obtain ⟨ho, hty⟩ := hpre o (by simp)
    simp only [List.flatMap_cons, List.append_assoc]
    rw [obusAux_obu o ho]
    simp only [extractAv1Aux, obuInfo, hty, if_false]
    exact ih (fun x hx => hpre x (by simp [hx])) f (by simp at hf; omega)

/-- `extract_av1_config` on `OBUs without a sequence header ++ sequence header OBU ++ anything`
    is `parse_sequence_header` of exactly that OBU -/
theorem extractAv1_obus (pre : List Obu) (sh : Obu) (post : Bytes)
    (hpre : ∀ o ∈ pre, o.WF ∧ o.obuType ≠ 1) (hsh : sh.WF) (ht : sh.obuType = 1) :
    extractAv1 (pre.flatMap Obu.bytes ++ sh.bytes ++ post)
      = parseSequenceHeader sh.bytes sh.headerSize := by
  have hne : pre.flatMap Obu.bytes ++ (sh.bytes ++ post) ≠ [] := by simp [Obu.bytes]
  unfold extractAv1 obus
  simp only [List.append_assoc, hne, if_false]
  apply extractAv1Aux_obus pre sh post hpre hsh ht
  -- every OBU has at least its header byte, so there are no more OBUs than bytes
  have := length_le_sum_map (fun o : Obu => o.bytes.length) pre fun o _ => by simp [Obu.bytes]
  simp only [List.length_append, List.length_flatMap]
  omega

theorem obu_bytes_drop (o : Obu) : o.bytes.drop o.headerSize = o.payload := by
  have e : o.bytes = (o.headerByte :: (o.extension.toList ++ lebBytes o.sizeGroups)) ++ o.payload := by
    simp [Obu.bytes]
  -- what stands before the payload is `headerSize` bytes long
  have hl := obu_bytes_length o
  rw [e, List.length_append] at hl
  rw [e, List.drop_left' (by omega)]

end Muxide.Av1Lemmas
