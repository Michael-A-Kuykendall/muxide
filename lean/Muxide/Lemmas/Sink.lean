import Muxide.Model.Sink
/- Muxide.Lemmas.Sink — `write_all` / chunk-sequence lemmas for an arbitrary sink. -/
namespace Muxide

variable {σ : Type}

/-- after `write_all`, the sink holds what it held plus a prefix of the buffer; the whole buffer
    if the call succeeded -/
theorem writeAll_prefix (respond : Respond σ) (fuel : Nat) (s : Sink σ) (buf : Bytes) :
    ∃ k, k ≤ buf.length ∧ (writeAll respond fuel s buf).1.got = s.got ++ buf.take k ∧
      ((writeAll respond fuel s buf).2 = .ok () → k = buf.length) := by
  induction fuel generalizing s buf with
  | zero =>
    unfold writeAll
    split
    · next hb => exact ⟨0, Nat.zero_le _, (List.append_nil _).symm, fun _ => by rw [hb]; rfl⟩
    · exact ⟨0, Nat.zero_le _, (List.append_nil _).symm, nofun⟩
  | succ fuel ih =>
    unfold writeAll
    split
    · next hb => exact ⟨0, Nat.zero_le _, (List.append_nil _).symm, fun _ => by rw [hb]; rfl⟩
    split
    · next st' n hr =>
      split
      · exact ⟨0, Nat.zero_le _, (List.append_nil _).symm, nofun⟩
      · -- `min n buf.length` bytes are accepted, then the rest of the buffer is offered
        obtain ⟨k, hk, hg, hok⟩ := ih ⟨st', s.got ++ buf.take (min n buf.length)⟩ (buf.drop (min n buf.length))
        rw [List.length_drop] at hk hok
        refine ⟨min n buf.length + k, by omega, ?_, fun h => by have := hok h; omega⟩
        rw [hg, List.append_assoc, List.take_add]
    · next st' hr => exact ih { s with st := st' } buf
    · exact ⟨0, Nat.zero_le _, (List.append_nil _).symm, nofun⟩

open List in
/-- the accepted bytes are always the previous content plus a prefix of the concatenated chunks;
    all of them if every `write_all` succeeded -/
theorem writeChunks_prefix (respond : Respond σ) (fuel : Nat) (s : Sink σ) (cs : List Bytes) (cnt : Nat) :
    ∃ p, p <+: cs.flatten ∧ (writeChunks respond fuel s cs cnt).1.got = s.got ++ p ∧
      ((writeChunks respond fuel s cs cnt).2.1 = .ok () → p = cs.flatten) := by
  induction cs generalizing s cnt with
  | nil => exact ⟨[], List.prefix_refl _, (List.append_nil _).symm, fun _ => rfl⟩
  | cons c cs ih =>
    obtain ⟨k, hk, hg, hok⟩ := writeAll_prefix respond fuel s c
    unfold writeChunks
    split
    · next s' h =>
      -- the chunk went through whole; the rest by induction
      rw [h] at hg hok
      obtain rfl := hok rfl
      obtain ⟨p, hp, hg2, hok2⟩ := ih s' (cnt + c.length)
      refine ⟨c ++ p, (List.prefix_append_right_inj c).mpr hp, ?_, fun h2 => by rw [hok2 h2]; rfl⟩
      rw [hg2, hg, List.take_length, List.append_assoc]
    · next s' e h =>
      rw [h] at hg
      exact ⟨c.take k, (List.take_prefix k c).trans (List.prefix_append c _), hg, nofun⟩

theorem writeChunks_count_ok (respond : Respond σ) (fuel : Nat) (s : Sink σ) (cs : List Bytes) (cnt : Nat)
    (h : (writeChunks respond fuel s cs cnt).2.1 = .ok ()) :
    (writeChunks respond fuel s cs cnt).2.2 = cnt + (cs.map (·.length)).sum := by
  induction cs generalizing s cnt with
  | nil => rfl
  | cons c cs ih =>
    unfold writeChunks at h ⊢
    split at h
    · rw [List.map_cons, List.sum_cons, ← Nat.add_assoc]; exact ih _ _ h
    · cases h

theorem writeChunks_ok (respond : Respond σ) (fuel : Nat) (s : Sink σ) (cs : List Bytes) (cnt : Nat)
    (h : (writeChunks respond fuel s cs cnt).2.1 = .ok ()) :
    (writeChunks respond fuel s cs cnt).1.got = s.got ++ cs.flatten ∧
    (writeChunks respond fuel s cs cnt).2.2 = cnt + (cs.map (·.length)).sum := by
  obtain ⟨p, -, hg, hall⟩ := writeChunks_prefix respond fuel s cs cnt
  exact ⟨by rw [hg, hall h], writeChunks_count_ok respond fuel s cs cnt h⟩

end Muxide
