import Muxide.Model.Mp4
/- Muxide.Lemmas.Schedule — the interleave schedule: `Ent.le` is a total preorder, the entries of
   one track, and the per-track filter of the merged schedule. -/
namespace Muxide

theorem Ent.le_iff (a b : Ent) :
    Ent.le a b = true ↔
      (a.ts < b.ts ∨ (a.ts = b.ts ∧ (a.kind < b.kind ∨ (a.kind = b.kind ∧ a.idx ≤ b.idx)))) := by
  simp [Ent.le]

theorem Ent.le_trans (a b c : Ent) : Ent.le a b = true → Ent.le b c = true → Ent.le a c = true := by
  rw [Ent.le_iff, Ent.le_iff, Ent.le_iff]; omega

theorem Ent.le_total (a b : Ent) : (Ent.le a b || Ent.le b a) = true := by
  rw [Bool.or_eq_true, Ent.le_iff, Ent.le_iff]; omega

/-- `Ent.le` is antisymmetric: the sort key (ts, kind, idx) is the whole entry -/
theorem Ent.le_antisymm (a b : Ent) : Ent.le a b = true → Ent.le b a = true → a = b := by
  rw [Ent.le_iff, Ent.le_iff]
  cases a; cases b
  simp only [Ent.mk.injEq]; omega

@[simp] theorem entsOf_length (k : Nat) (s : List Sample) : (entsOf k s).length = s.length := by
  simp [entsOf]

theorem entsOf_getElem (k : Nat) (s : List Sample) (i : Nat) (h : i < s.length) :
    (entsOf k s)[i]'(by simpa using h) = ⟨s[i].dts, k, i⟩ := by
  simp [entsOf]

theorem entsOf_getElem? (k : Nat) (s : List Sample) (i : Nat) :
    (entsOf k s)[i]? = s[i]?.map fun x => ⟨x.dts, k, i⟩ := by
  by_cases h : i < s.length
  · rw [List.getElem?_eq_getElem (by simpa using h), entsOf_getElem k s i h]
    simp [h]
  · rw [List.getElem?_eq_none (by simpa using h), List.getElem?_eq_none (by omega)]
    rfl

theorem mem_entsOf {k : Nat} {s : List Sample} {e : Ent} (h : e ∈ entsOf k s) :
    e.kind = k ∧ ∃ hi : e.idx < s.length, e.ts = s[e.idx].dts := by
  obtain ⟨i, hi, rfl⟩ := List.getElem_of_mem h
  have hi' : i < s.length := by simpa using hi
  rw [entsOf_getElem k s i hi']
  exact ⟨rfl, hi', rfl⟩

theorem entsOf_pairwise (k : Nat) (s : List Sample) (h : s.Pairwise (fun a b => a.dts ≤ b.dts)) :
    (entsOf k s).Pairwise (fun a b => Ent.le a b = true) := by
  rw [List.pairwise_iff_getElem]
  intro i j hi hj hij
  have hi' : i < s.length := by simpa using hi
  have hj' : j < s.length := by simpa using hj
  rw [entsOf_getElem k s i hi', entsOf_getElem k s j hj']
  have := (List.pairwise_iff_getElem.mp h) i j hi' hj' hij
  simp [Ent.le]; omega

theorem schedule_perm (vs aus : List Sample) :
    (schedule vs aus).Perm (entsOf 0 vs ++ entsOf 1 aus) := List.mergeSort_perm _ _

theorem schedule_sorted (vs aus : List Sample) :
    (schedule vs aus).Pairwise (fun a b => Ent.le a b = true) :=
  List.pairwise_mergeSort Ent.le_trans Ent.le_total _

theorem schedule_length (vs aus : List Sample) :
    (schedule vs aus).length = vs.length + aus.length := by
  rw [(schedule_perm vs aus).length_eq]; simp

/-- sorting does not disturb what a predicate selects, if that is in order already -/
theorem filter_mergeSort (l : List Ent) (p : Ent → Bool)
    (hs : (l.filter p).Pairwise (fun a b => Ent.le a b = true)) :
    (l.mergeSort Ent.le).filter p = l.filter p := by
  have hsub : (l.filter p).Sublist ((l.mergeSort Ent.le).filter p) := by
    simpa using (List.sublist_mergeSort Ent.le_trans Ent.le_total hs List.filter_sublist).filter p
  exact (hsub.eq_of_length ((List.mergeSort_perm l Ent.le).filter p).length_eq.symm).symm

theorem entsOf_filter_kind (j k : Nat) (s : List Sample) :
    (entsOf j s).filter (fun e => e.kind = k) = if k = j then entsOf j s else [] := by
  split
  · exact List.filter_eq_self.mpr (by intro e he; simp [(mem_entsOf he).1, *])
  · exact List.filter_eq_nil_iff.mpr (by intro e he; simp [(mem_entsOf he).1]; omega)

theorem schedule_filter_video (vs aus : List Sample) (hv : vs.Pairwise (fun a b => a.dts ≤ b.dts)) :
    (schedule vs aus).filter (fun e => e.kind = 0) = entsOf 0 vs := by
  have e : (entsOf 0 vs ++ entsOf 1 aus).filter (fun e => e.kind = 0) = entsOf 0 vs := by
    simp [List.filter_append, entsOf_filter_kind]
  rw [schedule, filter_mergeSort _ _ (by rw [e]; exact entsOf_pairwise 0 vs hv), e]

theorem schedule_filter_audio (vs aus : List Sample) (ha : aus.Pairwise (fun a b => a.dts ≤ b.dts)) :
    (schedule vs aus).filter (fun e => e.kind = 1) = entsOf 1 aus := by
  have e : (entsOf 0 vs ++ entsOf 1 aus).filter (fun e => e.kind = 1) = entsOf 1 aus := by
    simp [List.filter_append, entsOf_filter_kind]
  rw [schedule, filter_mergeSort _ _ (by rw [e]; exact entsOf_pairwise 1 aus ha), e]

theorem mem_schedule {vs aus : List Sample} {e : Ent} (h : e ∈ schedule vs aus) :
    (e.kind = 0 ∧ ∃ hi : e.idx < vs.length, e.ts = vs[e.idx].dts) ∨
    (e.kind = 1 ∧ ∃ hi : e.idx < aus.length, e.ts = aus[e.idx].dts) := by
  have := (schedule_perm vs aus).mem_iff.mp h
  rcases List.mem_append.mp this with h | h
  · exact Or.inl (mem_entsOf h)
  · exact Or.inr (mem_entsOf h)

theorem schedule_filter_not_video (vs aus : List Sample) :
    (schedule vs aus).filter (fun e => !decide (e.kind = 0)) = (schedule vs aus).filter (fun e => e.kind = 1) := by
  apply List.filter_congr
  intro e he
  rcases mem_schedule he with ⟨h, _⟩ | ⟨h, _⟩ <;> simp [h]

theorem pairwise_lt_le {s : List Sample} (h : s.Pairwise (fun a b => a.dts < b.dts)) :
    s.Pairwise (fun a b => a.dts ≤ b.dts) :=
  h.imp (fun h => Nat.le_of_lt h)

/-- the schedule is *the* sorted arrangement of the entries: any sorted permutation of the
    entries of both tracks equals it (the sort key is the whole entry, so stability is moot) -/
theorem schedule_unique (vs aus : List Sample) (l : List Ent)
    (hp : l.Perm (entsOf 0 vs ++ entsOf 1 aus)) (hs : l.Pairwise (fun a b => Ent.le a b = true)) :
    schedule vs aus = l :=
  List.Perm.eq_of_pairwise (le := fun a b => Ent.le a b = true)
    (fun a b _ _ h1 h2 => Ent.le_antisymm a b h1 h2)
    (schedule_sorted vs aus) hs ((schedule_perm vs aus).trans hp.symm)

end Muxide
