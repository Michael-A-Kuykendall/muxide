import Muxide.Lemmas.Api
/-
  Muxide.Lemmas.ApiCalls — what one call does, read off the "check, then push" normal forms of
  Lemmas/Api: a writer call either is refused and changes nothing, or has passed the checks listed
  in `videoErr_none` / `audioErr_none` and pushes one sample on the queue of its track (`pushRev`),
  touching nothing of the other track; a convenience call of the API is the explicit call at the
  running clock; a finish that answers with statistics has run one successful `finalize` and handed
  all of it to the sink (`Muxer.finishStats_stats`).  Invariants and history theorems rest on these.
-/
namespace Muxide

/-- the older samples once a sample with decode time `t` is accepted: the newest of them gets the
    step to `t` as its duration (when there is a previous timestamp) -/
def pushRev (rev : List Sample) (prev : Option Nat) (t : Nat) : List Sample :=
  match prev with | some p => setLastDur rev (t - p) | none => rev
/-- `last_delta` after that sample: the step to `t`, or unchanged for the first sample -/
def pushLd (prev ld : Option Nat) (t : Nat) : Option Nat :=
  match prev with | some p => some (t - p) | none => ld

/-- `setLastDur` is invisible to whatever does not look at durations -/
theorem map_setLastDur {β} (f : Sample → β) (hf : ∀ s d, f { s with dur := d } = f s)
    (rev : List Sample) (d : Nat) : (setLastDur rev d).map f = rev.map f := by
  cases rev <;> simp [setLastDur, hf]

theorem map_pushRev {β} (f : Sample → β) (hf : ∀ s d, f { s with dur := d } = f s)
    (rev : List Sample) (prev : Option Nat) (t : Nat) : (pushRev rev prev t).map f = rev.map f := by
  cases prev with
  | none => rfl
  | some p => exact map_setLastDur f hf rev _

theorem forall_mem_pushRev {p : Sample → Prop} (hp : ∀ s d, p { s with dur := d } ↔ p s)
    {rev : List Sample} {prev : Option Nat} {t : Nat} :
    (∀ x ∈ pushRev rev prev t, p x) ↔ ∀ x ∈ rev, p x := by
  cases prev with
  | none => rfl
  | some q => cases rev <;> simp [pushRev, setLastDur, hp]

theorem Writer.writeVideo_cases (w : Writer) (pts dts : Nat) (d : Bytes) (k : Bool) :
    (∃ e, w.videoErr pts dts d k = some e ∧ w.writeVideo pts dts d k = (w, .err e)) ∨
    (w.videoErr pts dts d k = none ∧ w.writeVideo pts dts d k = (w.videoPush pts dts d k, .ok)) := by
  rw [Writer.writeVideo_eq]
  cases w.videoErr pts dts d k with
  | some e => exact .inl ⟨e, rfl, rfl⟩
  | none => exact .inr ⟨rfl, rfl⟩

theorem Writer.writeAudio_cases (w : Writer) (pts : Nat) (d : Bytes) :
    (∃ e, w.audioErr pts d = some e ∧ w.writeAudio pts d = (w, .err e)) ∨
    (w.audioErr pts d = none ∧ w.writeAudio pts d = (w.audioPush pts (storedAudio w d), .ok)) := by
  rw [Writer.writeAudio_eq]
  cases w.audioErr pts d with
  | some e => exact .inl ⟨e, rfl, rfl⟩
  | none => exact .inr ⟨rfl, rfl⟩

theorem Writer.videoErr_none {w : Writer} {pts dts : Nat} {d : Bytes} {k : Bool}
    (h : w.videoErr pts dts d k = none) :
    w.finalized = false ∧ (convertPayload w.codec d).length ≤ u32Max ∧ ¬ ctsBad pts dts ∧
    (∀ prev, w.vPrev = some prev → prev < dts ∧ dts - prev ≤ u32Max) ∧
    (w.vPrev = none → k = true ∧ ∃ c, extractConfig w.codec d = .some c) := by
  obtain ⟨hf, hprev, hlen, hcts⟩ := Writer.videoErr_eq_none.mp h
  refine ⟨hf, hlen, hcts, fun prev hp => ?_, fun hp => ?_⟩ <;> rw [hp] at hprev <;> exact hprev

theorem Writer.audioErr_none {w : Writer} {pts : Nat} {d : Bytes} (h : w.audioErr pts d = none) :
    w.finalized = false ∧ (∃ tr, w.audio = some tr ∧ audioPayload tr.codec d = .ok (storedAudio w d)) ∧
    (storedAudio w d).length ≤ u32Max ∧
    (∀ prev, w.aPrev = some prev → prev ≤ pts ∧ pts - prev ≤ u32Max) := by
  unfold Writer.audioErr at h
  rw [ite_some_eq_none] at h
  obtain ⟨hf, h⟩ := h
  cases ha : w.audio with
  | none => simp [ha] at h
  | some tr =>
    rw [ha] at h
    simp only [] at h
    split at h
    · cases h
    next hprev =>
    cases hsd : audioPayload tr.codec d with
    | error e => simp [hsd] at h
    | ok sd =>
      have hst : storedAudio w d = sd := by simp [storedAudio, ha, hsd]
      simp only [hsd, ite_some_eq_none] at h
      refine ⟨by simpa using hf, ⟨tr, rfl, hst ▸ hsd⟩, by rw [hst]; omega, fun prev hp => ?_⟩
      simp only [hp, ite_some_eq_none] at hprev
      omega

theorem Writer.videoPush_eq (w : Writer) (pts dts : Nat) (d : Bytes) (k : Bool) :
    ∃ vc, w.videoPush pts dts d k =
      { w with vsRev := ⟨pts, dts, convertPayload w.codec d, k, none⟩ :: pushRev w.vsRev w.vPrev dts,
               vPrev := some dts, vLastDelta := pushLd w.vPrev w.vLastDelta dts, vConfig := vc } := by
  unfold Writer.videoPush pushRev pushLd
  cases w.vPrev with
  | some prev => exact ⟨_, rfl⟩
  | none => cases extractConfig w.codec d <;> exact ⟨_, rfl⟩

theorem Writer.audioPush_eq (w : Writer) (pts : Nat) (sd : Bytes) :
    w.audioPush pts sd =
      { w with asRev := ⟨pts, pts, sd, false, none⟩ :: pushRev w.asRev w.aPrev pts,
               aPrev := some pts, aLastDelta := pushLd w.aPrev w.aLastDelta pts } := by
  unfold Writer.audioPush pushRev pushLd
  cases w.aPrev <;> rfl

theorem Writer.writeVideo_ok {w : Writer} {pts dts : Nat} {d : Bytes} {k : Bool}
    (h : (w.writeVideo pts dts d k).2 = .ok) :
    w.videoErr pts dts d k = none ∧ ∃ vc, (w.writeVideo pts dts d k).1 =
      { w with vsRev := ⟨pts, dts, convertPayload w.codec d, k, none⟩ :: pushRev w.vsRev w.vPrev dts,
               vPrev := some dts, vLastDelta := pushLd w.vPrev w.vLastDelta dts, vConfig := vc } := by
  rcases w.writeVideo_cases pts dts d k with ⟨e, -, h'⟩ | ⟨he, h'⟩
  · rw [h'] at h; cases h
  · rw [h']; exact ⟨he, w.videoPush_eq pts dts d k⟩

theorem Writer.writeAudio_ok {w : Writer} {pts : Nat} {d : Bytes} (h : (w.writeAudio pts d).2 = .ok) :
    w.audioErr pts d = none ∧ (w.writeAudio pts d).1 =
      { w with asRev := ⟨pts, pts, storedAudio w d, false, none⟩ :: pushRev w.asRev w.aPrev pts,
               aPrev := some pts, aLastDelta := pushLd w.aPrev w.aLastDelta pts } := by
  rcases w.writeAudio_cases pts d with ⟨e, -, h'⟩ | ⟨he, h'⟩
  · rw [h'] at h; cases h
  · rw [h']; exact ⟨he, w.audioPush_eq pts _⟩

/-- whatever its outcome, a video call touches the video fields only … -/
theorem Writer.writeVideo_frame (w : Writer) (pts dts : Nat) (d : Bytes) (k : Bool) :
    ∃ vs vp vl vc, (w.writeVideo pts dts d k).1 =
      { w with vsRev := vs, vPrev := vp, vLastDelta := vl, vConfig := vc } := by
  rcases w.writeVideo_cases pts dts d k with ⟨e, -, h⟩ | ⟨-, h⟩ <;> rw [h]
  · exact ⟨_, _, _, _, rfl⟩
  · obtain ⟨vc, e⟩ := w.videoPush_eq pts dts d k
    exact ⟨_, _, _, vc, e⟩

/-- … and an audio call the audio queue, `aPrev` and `aLastDelta` only -/
theorem Writer.writeAudio_frame (w : Writer) (pts : Nat) (d : Bytes) :
    ∃ as ap al, (w.writeAudio pts d).1 = { w with asRev := as, aPrev := ap, aLastDelta := al } := by
  rcases w.writeAudio_cases pts d with ⟨e, -, h⟩ | ⟨-, h⟩ <;> rw [h]
  · exact ⟨_, _, _, rfl⟩
  · exact ⟨_, _, _, w.audioPush_eq pts _⟩

theorem Writer.videoErr_finalized {w : Writer} (h : w.finalized = true) (pts dts : Nat) (d : Bytes)
    (k : Bool) : w.videoErr pts dts d k = some .alreadyFinalized := by
  simp [Writer.videoErr, h]

theorem Writer.audioErr_finalized {w : Writer} (h : w.finalized = true) (pts : Nat) (d : Bytes) :
    w.audioErr pts d = some .alreadyFinalized := by
  simp [Writer.audioErr, h]

theorem wresReply_ok_iff {r : WRes} {i : Nat} : wresReply r i = .ok ↔ r = .ok := by
  cases r with
  | ok => simp [wresReply]
  | err e => obtain ⟨e', j, h⟩ := convertErr_eq_err e i; simp [wresReply, h]
  | panic => simp [wresReply]

/-- `encode_video` is `write_video` at the running timestamp; only `curV` moves besides -/
theorem Muxer.encodeVideo_via (m : Muxer) (d : Bytes) (ms : Nat) :
    (m.encodeVideo d ms).1.w = (m.writeVideo m.curV d (m.isKeyframe d)).1.w ∧
    (m.encodeVideo d ms).2 = (m.writeVideo m.curV d (m.isKeyframe d)).2 := by
  rw [Muxer.encodeVideo_eq]
  exact ⟨by dsimp only; split <;> rfl, rfl⟩

theorem Muxer.encodeAudio_via (m : Muxer) (d : Bytes) (n : Nat) :
    match m.audioTrack with
    | none => m.encodeAudio d n = (m, .err .audioNotConfigured none)
    | some _ =>
      (m.encodeAudio d n).1.w = (m.writeAudio m.curA d).1.w ∧
      (m.encodeAudio d n).2 = (m.writeAudio m.curA d).2 := by
  cases ha : m.audioTrack with
  | none => exact m.encodeAudio_none d n ha
  | some a =>
    rw [Muxer.encodeAudio_eq m d n a ha]
    exact ⟨by dsimp only; split <;> rfl, rfl⟩

theorem finishReply_eq_stats {wr : Except IoErr Unit} {res : FinRes} {w : Writer} {st : Stats} :
    finishReply wr res w = .stats st ↔ wr = .ok () ∧ res = .ok ∧
      st = ⟨w.vsRev.length, w.asRev.length,
        F64.div (F64.ofNat (w.maxEndPts.getD 0)) (F64.ofNat 90000), w.bytesWritten⟩ := by
  cases wr <;> cases res <;> simp [finishReply, eq_comm]

/-- for concrete runs: a reply that evaluates to statistics -/
theorem Reply.exists_stats {r : Reply} (h : (match r with | .stats _ => true | _ => false) = true) :
    ∃ st, r = .stats st := by
  cases r with
  | stats st => exact ⟨st, rfl⟩
  | ok | err _ _ | panic => cases h

theorem Muxer_finishStats_w (m : Muxer) (d : Deliver) :
    ∃ b fl, (m.finishStats d).1.w = { m.w with finalized := fl, bytesWritten := b } := by
  cases hf : m.finished with
  | true => rw [m.finishStats_finished d hf]; exact ⟨_, _, rfl⟩
  | false => rw [m.finishStats_eq d hf]; simp only [finalize_fst]; exact ⟨_, _, rfl⟩

/-- `finish_in_place_with_stats` answering with statistics: the muxer was not finished nor the
    writer finalized, `finalize` succeeded, the sink took everything; the state and the numbers -/
theorem Muxer.finishStats_stats {m m' : Muxer} {d : Deliver} {out : FinOut} {st : Stats}
    (h : m.finishStats d = (m', out, .stats st)) :
    m.finished = false ∧ m.w.finalized = false ∧
    out = (m.w.finalize m.width m.height m.md m.fast).2 ∧ out.res = .ok ∧ (d out.chunks).1 = .ok () ∧
    m' = { m with w := { m.w with finalized := true,
                                  bytesWritten := min (m.w.bytesWritten + (d out.chunks).2) u64Max },
                  finished := true } ∧
    st = ⟨m.w.vsRev.length, m.w.asRev.length,
      F64.div (F64.ofNat (m.w.maxEndPts.getD 0)) (F64.ofNat 90000),
      min (m.w.bytesWritten + (d out.chunks).2) u64Max⟩ := by
  cases hf : m.finished with
  | true => rw [m.finishStats_finished d hf] at h; cases h
  | false =>
    rw [m.finishStats_eq d hf] at h
    simp only [Prod.mk.injEq, finalize_fst] at h
    obtain ⟨rfl, rfl, hr⟩ := h
    obtain ⟨hwr, hres, rfl⟩ := finishReply_eq_stats.mp hr
    refine ⟨rfl, (finalize_ok hres).fresh, rfl, hres, hwr, ?_, rfl⟩
    simp [hwr, hres, Except.isOk, Except.toBool]

end Muxide
