import Mathlib.Tactic.Ring
import Muxide.Model.Api
import Muxide.Spec.Contract
/-
  Muxide.Lemmas.F64 — facts about the soft-float model used by the API contract (C04):
  * `roundPos` (round-to-nearest-even of a positive rational) is `mk (preQ n d) (expOf n d)`, depends on
    the quotient only (`roundPos_congr`) and is monotone in it (`pre_mono`);
  * `F64.ticks` is monotone w.r.t. `F64.le` on finite non-negative values (`ticks_mono`);
  * `F64.lt x y = !F64.le y x` on finite values (`lt_eq_not_le`);
  * the model's `ticksRepresentable` equals the spec's exact `tickInRange` on genuine doubles
    (`ticksRepresentable_eq_tickInRange`), and differs on an unnormalised triple.
  A power `2^e` with `e : Int` is the fraction `pw e / nw e`; order between values is stated cross-multiplied.

  No Mathlib tactic is used. The import stays because with Mathlib in scope `2 ^ n` on `Nat` elaborates through
  `Monoid.Pow ℕ`, and the definitions and statements of this module and of the modules that import it
  (Props/C04 and what follows it) are stated with that instance.
-/
namespace Muxide.F64
def pw (e : Int) : Nat := 2^e.toNat
def nw (e : Int) : Nat := 2^(-e).toNat
theorem pw_pos (e : Int) : 0 < pw e := Nat.two_pow_pos _
theorem nw_pos (e : Int) : 0 < nw e := Nat.two_pow_pos _
theorem pw_neg (e : Int) (h : e ≤ 0) : pw e = 1 := by
  unfold pw; rw [show e.toNat = 0 by omega]; rfl
theorem nw_nonneg (e : Int) (h : 0 ≤ e) : nw e = 1 := by
  unfold nw; rw [show (-e).toNat = 0 by omega]; rfl
theorem nw_ge_of_le (e : Int) (k : Nat) (h : e ≤ -(k : Int)) : 2 ^ k ≤ nw e :=
  Nat.pow_le_pow_right (by decide) (by omega)

/-- `2^(e+k) = 2^k·2^e` with the negative powers cleared.  Every exponent is its positive part less its
    negative part (`Int.toNat_sub_toNat_neg`); with the parts as atoms the claim is linear in the exponents -/
theorem pw_nw_add (e : Int) (k : Nat) : pw (e + k) * nw e = 2^k * (pw e * nw (e + k)) := by
  unfold pw nw
  rw [← Nat.pow_add, ← Nat.pow_add, ← Nat.pow_add]
  congr 1
  have := Int.toNat_sub_toNat_neg e
  have := Int.toNat_sub_toNat_neg (e + k)
  generalize e.toNat = a, (-e).toNat = b, (e + k).toNat = c, (-(e + k)).toNat = d at *
  omega

theorem pw_nw_succ (e : Int) : pw (e + 1) * nw e = 2 * (pw e * nw (e + 1)) := by
  simpa using pw_nw_add e 1

/-- `2^e = 2^x / 2^y` -/
theorem pw_nw (e : Int) (x y : Nat) (h : e = (x : Int) - y) : 2^x * nw e = 2^y * pw e := by
  unfold pw nw
  rw [← Nat.pow_add, ← Nat.pow_add]
  congr 1
  have := Int.toNat_sub_toNat_neg e
  generalize e.toNat = a, (-e).toNat = b at *
  omega

/-- `n/d < 2^E` in cross-multiplied form -/
def below (n d : Nat) (E : Int) : Prop := n * nw E < d * pw E

/-- … seen from a smaller exponent, `n/d < 2^k·2^e`: both sides are compared after scaling by the positive
    `nw e`, resp. `nw (e + k)` -/
theorem below_add (n d : Nat) (e : Int) (k : Nat) : below n d (e + k) ↔ n * nw e < 2^k * (d * pw e) := by
  unfold below
  have h : d * pw (e + k) * nw e = 2^k * (d * pw e) * nw (e + k) := by
    rw [Nat.mul_assoc d, pw_nw_add]; ac_rfl
  rw [← Nat.mul_lt_mul_right (nw_pos e), h, Nat.mul_right_comm n, Nat.mul_lt_mul_right (nw_pos (e + k))]

theorem below_mono_e {n d : Nat} {e1 e2 : Int} (h : e1 ≤ e2) (hb : below n d e1) : below n d e2 := by
  obtain ⟨k, rfl⟩ : ∃ k : Nat, e2 = e1 + k := ⟨(e2 - e1).toNat, by omega⟩
  rw [below_add]
  exact Nat.lt_of_lt_of_le hb (Nat.le_mul_of_pos_left _ (Nat.two_pow_pos k))

theorem below_mono_q {n1 d1 n2 d2 : Nat} {e : Int} (hd1 : 0 < d1)
    (hq : n1 * d2 ≤ n2 * d1) (hb : below n2 d2 e) : below n1 d1 e := by
  unfold below at *
  apply Nat.lt_of_mul_lt_mul_right (a := d2)
  calc n1 * nw e * d2 = n1 * d2 * nw e := Nat.mul_right_comm ..
    _ ≤ n2 * d1 * nw e := Nat.mul_le_mul_right _ hq
    _ = n2 * nw e * d1 := Nat.mul_right_comm ..
    _ < d2 * pw e * d1 := Nat.mul_lt_mul_of_pos_right hb hd1
    _ = d1 * pw e * d2 := by ac_rfl

def rne (a b : Nat) : Nat :=
  if 2 * (a % b) > b then a / b + 1
  else if 2 * (a % b) = b then (if (a / b) % 2 = 1 then a / b + 1 else a / b) else a / b

def expOf (n d : Nat) : Int :=
  let e0 : Int := (Nat.log2 n : Int) - (Nat.log2 d : Int) - 52
  let e1 := if (n * nw e0) / (d * pw e0) ≥ 2^53 then e0 + 1
            else if (n * nw e0) / (d * pw e0) < 2^52 then e0 - 1 else e0
  if e1 < -1074 then -1074 else e1

/-- mantissa of the rounding of `n/d`, before a carry -/
def preQ (n d : Nat) : Nat := rne (n * nw (expOf n d)) (d * pw (expOf n d))

def mk (neg : Bool) (q : Nat) (e : Int) : F64 :=
  if q ≥ 2^53 then (if e + 1 > 971 then inf neg else fin neg (q / 2) (e + 1))
  else (if e > 971 then inf neg else fin neg q e)

theorem scale_eq (n d : Nat) (e : Int) :
    (if e ≥ 0 then (n, d * 2^e.toNat) else (n * 2^(-e).toNat, d)) = (n * nw e, d * pw e) := by
  split
  · next h => rw [nw_nonneg e h, Nat.mul_one]; rfl
  · next h => rw [pw_neg e (by omega), Nat.mul_one]; rfl

theorem roundPos_eq (neg : Bool) (n d : Nat) (h : n ≠ 0) :
    roundPos neg n d = mk neg (preQ n d) (expOf n d) := by
  have h1 : roundPos neg n d =
      (let me : Nat × Int := if preQ n d ≥ 2^53 then (preQ n d / 2, expOf n d + 1) else (preQ n d, expOf n d)
       if me.2 > 971 then inf neg else fin neg me.1 me.2) := by
    unfold roundPos
    simp only [scale_eq, beq_iff_eq, h, if_false]
    rfl
  rw [h1]
  unfold mk
  split <;> rfl

/-- the first exponent guess brackets the quotient: `2^(e0+51) ≤ n/d < 2^(e0+53)` -/
theorem e0_bounds (n d : Nat) (hn : n ≠ 0) (hd : d ≠ 0) :
    let e0 : Int := (Nat.log2 n : Int) - (Nat.log2 d : Int) - 52
    below n d (e0 + 53) ∧ ¬ below n d (e0 + 51) := by
  intro e0
  unfold below
  constructor
  · calc n * nw (e0 + 53) < 2 ^ (n.log2 + 1) * nw (e0 + 53) := Nat.mul_lt_mul_of_pos_right Nat.lt_log2_self (nw_pos _)
      _ = 2 ^ d.log2 * pw (e0 + 53) := pw_nw _ _ _ (by omega)
      _ ≤ d * pw (e0 + 53) := Nat.mul_le_mul_right _ (Nat.log2_self_le hd)
  · apply Nat.not_lt.mpr
    calc d * pw (e0 + 51) ≤ 2 ^ (d.log2 + 1) * pw (e0 + 51) := Nat.mul_le_mul_right _ (Nat.le_of_lt Nat.lt_log2_self)
      _ = 2 ^ n.log2 * nw (e0 + 51) := (pw_nw _ _ _ (by omega)).symm
      _ ≤ n * nw (e0 + 51) := Nat.mul_le_mul_right _ (Nat.log2_self_le hn)

theorem div_lt_iff_below (n d : Nat) (e : Int) (k : Nat) (hd : 0 < d) :
    (n * nw e) / (d * pw e) < 2^k ↔ below n d (e + k) :=
  (Nat.div_lt_iff_lt_mul (Nat.mul_pos hd (pw_pos e))).trans (below_add n d e k).symm

/-- the chosen exponent: `e ≥ -1074`, `n/d < 2^(e+53)`, and `2^(e+52) ≤ n/d` unless clamped -/
theorem expOf_spec (n d : Nat) (hn : n ≠ 0) (hd : d ≠ 0) :
    -1074 ≤ expOf n d ∧ below n d (expOf n d + 53) ∧ (-1074 < expOf n d → ¬ below n d (expOf n d + 52)) := by
  -- the corrected guess `e1` has `2^(e1+52) ≤ n/d < 2^(e1+53)`; the exponent is `e1` clamped from below
  have key : ∃ e1, expOf n d = (if e1 < -1074 then -1074 else e1) ∧ below n d (e1 + 53) ∧ ¬ below n d (e1 + 52) := by
    obtain ⟨hb1, hb2⟩ := e0_bounds n d hn hd
    unfold expOf
    simp only [] at hb1 hb2 ⊢
    generalize (Nat.log2 n : Int) - (Nat.log2 d : Int) - 52 = e0 at hb1 hb2 ⊢
    have hq := fun k => div_lt_iff_below n d e0 k (Nat.pos_of_ne_zero hd)
    rw [if_neg (Nat.not_le.2 ((hq 53).2 hb1))]
    split
    · next h =>
      refine ⟨_, rfl, ?_, ?_⟩
      · rw [show e0 - 1 + 53 = e0 + (52 : Nat) by omega]; exact (hq 52).1 h
      · rw [show e0 - 1 + 52 = e0 + 51 by omega]; exact hb2
    · next h => exact ⟨_, rfl, hb1, fun hc => h ((hq 52).2 hc)⟩
  obtain ⟨e1, he, hu, hl⟩ := key
  rw [he]
  split
  · exact ⟨Int.le_refl _, below_mono_e (by omega) hu, fun h => absurd h (Int.lt_irrefl _)⟩
  · exact ⟨by omega, hu, fun _ => hl⟩

/-- a bound on the quotient, `n/d < 2^(k+53)`, bounds the exponent -/
theorem expOf_le (n d : Nat) (hn : n ≠ 0) (hd : d ≠ 0) (k : Int) (hk : -1074 ≤ k) (h : below n d (k + 53)) :
    expOf n d ≤ k :=
  Int.not_lt.1 fun hlt => (expOf_spec n d hn hd).2.2 (by omega) (below_mono_e (by omega) h)

theorem expOf_mono {n1 d1 n2 d2 : Nat} (hn1 : n1 ≠ 0) (hd1 : d1 ≠ 0) (hn2 : n2 ≠ 0) (hd2 : d2 ≠ 0)
    (hq : n1 * d2 ≤ n2 * d1) : expOf n1 d1 ≤ expOf n2 d2 := by
  obtain ⟨a2, b2, _⟩ := expOf_spec n2 d2 hn2 hd2
  exact expOf_le n1 d1 hn1 hd1 _ a2 (below_mono_q (Nat.pos_of_ne_zero hd1) hq b2)

/-- the rounding goes up above the midpoint, or at it from an odd quotient -/
theorem rne_eq (a b : Nat) :
    rne a b = a / b + if b < 2 * (a % b) ∨ (2 * (a % b) = b ∧ a / b % 2 = 1) then 1 else 0 := by
  unfold rne
  split
  · next h => simp [h]
  · split
    · next h1 h2 => split <;> simp [*]
    · next h1 h2 => simp [h1, h2]

/-- the rounding depends on the quotient only -/
theorem rne_scale (a b c : Nat) (hc : 0 < c) : rne (a * c) (b * c) = rne a b := by
  simp only [rne_eq, Nat.mul_div_mul_right _ _ hc, Nat.mul_mod_mul_right, ← Nat.mul_assoc,
    Nat.mul_lt_mul_right hc, Nat.mul_left_inj (Nat.ne_of_gt hc)]

theorem rne_mono_left {a a' b : Nat} (hb : 0 < b) (h : a ≤ a') : rne a b ≤ rne a' b := by
  have e := Nat.div_add_mod a b
  have e' := Nat.div_add_mod a' b
  have := Nat.mod_lt a' hb
  rw [rne_eq, rne_eq]
  rcases Nat.lt_or_eq_of_le (Nat.div_le_div_right (c := b) h) with hlt | heq
  · split <;> omega
  · -- same integer part: going up is monotone in the remainder
    rw [heq] at e ⊢
    split <;> split <;> omega

/-- round-to-nearest-even is monotone in the quotient: bring both to the denominator `b1·b2` -/
theorem rne_mono {a1 b1 a2 b2 : Nat} (hb1 : 0 < b1) (hb2 : 0 < b2) (h : a1 * b2 ≤ a2 * b1) :
    rne a1 b1 ≤ rne a2 b2 := by
  rw [← rne_scale a1 b1 b2 hb2, ← rne_scale a2 b2 b1 hb1, Nat.mul_comm b2 b1]
  exact rne_mono_left (Nat.mul_pos hb1 hb2) h

/-- the mantissa is at most `2^53` (a carry when equal) and normal unless the exponent was clamped -/
theorem preQ_range (n d : Nat) (hn : n ≠ 0) (hd : d ≠ 0) :
    preQ n d ≤ 2^53 ∧ (-1074 < expOf n d → 2^52 ≤ preQ n d) := by
  obtain ⟨_, b, c⟩ := expOf_spec n d hn hd
  have hq := fun k => div_lt_iff_below n d (expOf n d) k (Nat.pos_of_ne_zero hd)
  have b := (hq 53).2 b
  rw [preQ, rne_eq]
  exact ⟨by split <;> omega, fun he => by have := mt (hq 52).1 (c he); omega⟩

/-- at equal exponents the mantissas are ordered like the quotients -/
theorem preQ_mono {n1 d1 n2 d2 : Nat} (hd1 : d1 ≠ 0) (hd2 : d2 ≠ 0) (he : expOf n1 d1 = expOf n2 d2)
    (hq : n1 * d2 ≤ n2 * d1) : preQ n1 d1 ≤ preQ n2 d2 := by
  unfold preQ
  rw [he]
  apply rne_mono (Nat.mul_pos (Nat.pos_of_ne_zero hd1) (pw_pos _)) (Nat.mul_pos (Nat.pos_of_ne_zero hd2) (pw_pos _))
  rw [Nat.mul_mul_mul_comm, Nat.mul_mul_mul_comm n2]
  exact Nat.mul_le_mul_right _ hq

/-- value order `q₁·2^e₁ ≤ q₂·2^e₂`, cross-multiplied -/
def vle (q1 : Nat) (e1 : Int) (q2 : Nat) (e2 : Int) : Prop := q1 * pw e1 * nw e2 ≤ q2 * pw e2 * nw e1

/-- **rounding is monotone**: the rounded value of a smaller quotient is not larger -/
theorem pre_mono {n1 d1 n2 d2 : Nat} (hn1 : n1 ≠ 0) (hd1 : d1 ≠ 0) (hn2 : n2 ≠ 0) (hd2 : d2 ≠ 0)
    (hq : n1 * d2 ≤ n2 * d1) : vle (preQ n1 d1) (expOf n1 d1) (preQ n2 d2) (expOf n2 d2) := by
  unfold vle
  rcases Int.lt_or_eq_of_le (expOf_mono hn1 hd1 hn2 hd2 hq) with hlt | heq
  · -- a smaller exponent: `q₁·2^e₁ ≤ 2^53·2^e₁ = 2^52·2^(e₁+1) ≤ 2^52·2^e₂ ≤ q₂·2^e₂`
    have h1 := (preQ_range n1 d1 hn1 hd1).1
    have h2 := (preQ_range n2 d2 hn2 hd2).2 (by have := (expOf_spec n1 d1 hn1 hd1).1; omega)
    obtain ⟨k, hk, hk1⟩ : ∃ k : Nat, expOf n2 d2 = expOf n1 d1 + k ∧ 1 ≤ k :=
      ⟨(expOf n2 d2 - expOf n1 d1).toNat, by omega, by omega⟩
    rw [hk, Nat.mul_assoc, Nat.mul_assoc, pw_nw_add]
    generalize pw (expOf n1 d1) * nw (expOf n1 d1 + k) = A
    have hA : 2^1 * A ≤ 2^k * A := Nat.mul_le_mul_right A (Nat.pow_le_pow_right (by decide) hk1)
    calc preQ n1 d1 * A ≤ 2^53 * A := Nat.mul_le_mul_right _ h1
      _ ≤ 2^52 * (2^k * A) := by omega
      _ ≤ preQ n2 d2 * (2^k * A) := Nat.mul_le_mul_right _ h2
  · -- the same exponent: the mantissas are ordered
    rw [heq]
    exact Nat.mul_le_mul_right _ (Nat.mul_le_mul_right _ (preQ_mono hd1 hd2 heq hq))

/-- rounding depends on the quotient only -/
theorem roundPos_congr (neg : Bool) (n1 d1 n2 d2 : Nat) (hn1 : n1 ≠ 0) (hd1 : d1 ≠ 0) (hd2 : d2 ≠ 0)
    (h : n1 * d2 = n2 * d1) : roundPos neg n1 d1 = roundPos neg n2 d2 := by
  have hn2 : n2 ≠ 0 := fun h0 => Nat.mul_ne_zero hn1 hd2 (by rw [h, h0, Nat.zero_mul])
  have he : expOf n1 d1 = expOf n2 d2 :=
    Int.le_antisymm (expOf_mono hn1 hd1 hn2 hd2 (Nat.le_of_eq h))
      (expOf_mono hn2 hd2 hn1 hd1 (Nat.le_of_eq h.symm))
  have hq : preQ n1 d1 = preQ n2 d2 :=
    Nat.le_antisymm (preQ_mono hd1 hd2 he (Nat.le_of_eq h)) (preQ_mono hd2 hd1 he.symm (Nat.le_of_eq h.symm))
  rw [roundPos_eq _ _ _ hn1, roundPos_eq _ _ _ hn2, he, hq]

/-- `floor(q·2^e + 1/2)`: round half up of the value -/
def rhu (q : Nat) (e : Int) : Nat := (2 * (q * pw e) + nw e) / (2 * nw e)

theorem rhu_eq (m : Nat) (e : Int) :
    (if e ≥ 0 then m * 2^e.toNat else (m * 2 + 2^(-e).toNat) / (2 * 2^(-e).toNat)) = rhu m e := by
  unfold rhu
  split
  · next h => rw [nw_nonneg e h]; show m * pw e = _; omega
  · next h => rw [pw_neg e (by omega), Nat.mul_one, Nat.mul_comm 2 m]; rfl

theorem roundToU64_fin (m : Nat) (e : Int) : roundToU64 (fin false m e) = min (rhu m e) (2^64 - 1) := by
  rw [← rhu_eq]; rfl

/-- bring both quotients to the denominator `b1·b2` -/
theorem div_le_div_of_cross {a1 b1 a2 b2 : Nat} (hb1 : 0 < b1) (hb2 : 0 < b2) (h : a1 * b2 ≤ a2 * b1) :
    a1 / b1 ≤ a2 / b2 := by
  rw [← Nat.mul_div_mul_right a1 b1 hb2, ← Nat.mul_div_mul_right a2 b2 hb1, Nat.mul_comm b2 b1]
  exact Nat.div_le_div_right h

theorem rhu_mono {q1 : Nat} {e1 : Int} {q2 : Nat} {e2 : Int} (h : vle q1 e1 q2 e2) : rhu q1 e1 ≤ rhu q2 e2 := by
  unfold rhu
  apply div_le_div_of_cross (Nat.mul_pos (by decide) (nw_pos _)) (Nat.mul_pos (by decide) (nw_pos _))
  unfold vle at h
  -- either side is `4·(q·pw e·nw e') + 2·(nw e1·nw e2)`
  rw [Nat.add_mul, Nat.add_mul, Nat.mul_mul_mul_comm, Nat.mul_mul_mul_comm 2 (q2 * pw e2), Nat.mul_left_comm (nw e1),
    Nat.mul_left_comm (nw e2), Nat.mul_comm (nw e2)]
  omega

theorem rhu_succ (q : Nat) (e : Int) : rhu q (e + 1) = rhu (2 * q) e := by
  have h : q * pw (e + 1) * nw e = 2 * q * pw e * nw (e + 1) := by
    rw [Nat.mul_assoc, pw_nw_succ, Nat.mul_left_comm, Nat.mul_assoc, Nat.mul_assoc]
  exact Nat.le_antisymm (rhu_mono (Nat.le_of_eq h)) (rhu_mono (Nat.le_of_eq h.symm))

theorem rhu_big (q : Nat) (e : Int) (hq : 2^52 ≤ q) (he : 12 ≤ e) : 2^64 ≤ rhu q e := by
  rw [← rhu_eq, if_pos (by omega)]
  calc 2^64 = 2^52 * 2^12 := by decide
    _ ≤ q * 2^e.toNat := Nat.mul_le_mul hq (Nat.pow_le_pow_right (by decide) (by omega))

theorem rhu_zero (e : Int) : rhu 0 e = 0 := by
  unfold rhu
  exact Nat.div_eq_of_lt (by have := nw_pos e; omega)

/-- what `mk` makes of a mantissa `q ≤ 2^53`: itself, the carry `2^53·2^e = 2^52·2^(e+1)`, or infinity
    above the largest exponent -/
theorem mk_cases (neg : Bool) (q : Nat) (e : Int) (hq : q ≤ 2^53) :
    (mk neg q e = fin neg q e ∧ q < 2^53 ∧ e ≤ 971) ∨
    (mk neg q e = fin neg (2^52) (e + 1) ∧ q = 2^53 ∧ e + 1 ≤ 971) ∨
    (mk neg q e = inf neg ∧ 971 ≤ e) := by
  unfold mk
  split
  · obtain rfl : q = 2^53 := by omega
    split
    · exact .inr (.inr ⟨rfl, by omega⟩)
    · exact .inr (.inl ⟨rfl, rfl, by omega⟩)
  · split
    · exact .inr (.inr ⟨rfl, by omega⟩)
    · exact .inl ⟨rfl, by omega, by omega⟩

/-- the test `ticksRepresentable` makes on the rounded product -/
def reprF (x : F64) : Bool :=
  match x with
  | .fin false m e => (if e ≥ 0 then m * 2^e.toNat else (m * 2 + 2^(-e).toNat) / (2 * 2^(-e).toNat)) < 2^64
  | .fin true _ _ => true
  | _ => false

theorem reprF_fin (m : Nat) (e : Int) : reprF (fin false m e) = decide (rhu m e < 2^64) := by
  simp only [reprF, rhu_eq]

/-- conversion of the rounded value to ticks, and the test whether it is below 2^64, do not depend on
    carry / overflow-to-infinity: a normal mantissa at exponent 971 or more is far beyond 2^64 -/
theorem mk_ticks {q : Nat} {e : Int} (hq : q ≤ 2^53) (h52 : -1074 < e → 2^52 ≤ q) :
    roundToU64 (mk false q e) = min (rhu q e) (2^64 - 1) ∧ reprF (mk false q e) = decide (rhu q e < 2^64) := by
  rcases mk_cases false q e hq with ⟨h, _⟩ | ⟨h, rfl, _⟩ | ⟨h, he⟩
  · rw [h, roundToU64_fin, reprF_fin]; exact ⟨rfl, rfl⟩
  · rw [h, roundToU64_fin, reprF_fin, rhu_succ]; exact ⟨rfl, rfl⟩
  · have := rhu_big q e (h52 (by omega)) (by omega)
    rw [h]
    exact ⟨by show 2^64 - 1 = _; omega, (decide_eq_false (by omega)).symm⟩

theorem frac_eq (m : Nat) (e : Int) : frac m e = (m * pw e, nw e) := by
  by_cases h : e ≥ 0
  · simp only [frac, if_pos h, nw_nonneg e h]; rfl
  · simp only [frac, if_neg h, pw_neg e (by omega), Nat.mul_one]; rfl

theorem scaled_ne_zero {m : Nat} (e : Int) (hm : m ≠ 0) : m * pw e * 90000 ≠ 0 :=
  Nat.mul_ne_zero (Nat.mul_ne_zero hm (Nat.ne_of_gt (pw_pos e))) (by decide)

theorem mulNat_fin (s : Bool) (m : Nat) (e : Int) (k : Nat) :
    mulNat (fin s m e) k = roundPos s (m * pw e * k) (nw e) := by
  simp only [mulNat, frac_eq]

theorem mulNat_zero (s : Bool) (e : Int) : mulNat (fin s 0 e) 90000 = fin s 0 (-1074) := by
  rw [mulNat_fin, Nat.zero_mul, Nat.zero_mul]
  rfl

/-- value of the rounded product `90000·x`, as ticks before saturation -/
def U (m : Nat) (e : Int) : Nat :=
  rhu (preQ (m * pw e * 90000) (nw e)) (expOf (m * pw e * 90000) (nw e))

/-- on a positive double `ticks` and `ticksRepresentable` both look at `U` -/
theorem mulNat_ticks (m : Nat) (e : Int) (hm : m ≠ 0) :
    roundToU64 (mulNat (fin false m e) 90000) = min (U m e) (2^64 - 1) ∧
    reprF (mulNat (fin false m e) 90000) = decide (U m e < 2^64) := by
  obtain ⟨h1, h2⟩ := preQ_range _ _ (scaled_ne_zero e hm) (Nat.ne_of_gt (nw_pos e))
  rw [mulNat_fin, roundPos_eq _ _ _ (scaled_ne_zero e hm)]
  exact mk_ticks h1 h2

theorem ticks_zero (s : Bool) (e : Int) : ticks (fin s 0 e) = 0 := by
  unfold ticks
  rw [mulNat_zero]
  cases s
  · rw [roundToU64_fin, rhu_zero]; rfl
  · rfl

theorem U_mono (m1 : Nat) (e1 : Int) (m2 : Nat) (e2 : Int) (h1 : m1 ≠ 0) (h2 : m2 ≠ 0)
    (h : m1 * pw e1 * nw e2 ≤ m2 * pw e2 * nw e1) : U m1 e1 ≤ U m2 e2 := by
  refine rhu_mono (pre_mono (scaled_ne_zero e1 h1) (Nat.ne_of_gt (nw_pos e1))
    (scaled_ne_zero e2 h2) (Nat.ne_of_gt (nw_pos e2)) ?_)
  rw [Nat.mul_right_comm _ 90000, Nat.mul_right_comm _ 90000]
  exact Nat.mul_le_mul_right _ h

theorem toRat_fin (s : Bool) (m : Nat) (e : Int) :
    toRat (fin s m e) = (if s then -((m * pw e : Nat) : Int) else ((m * pw e : Nat) : Int), nw e) := by
  simp only [toRat, frac_eq]

/-- finite doubles are compared as fractions, cross-multiplied -/
theorem lt_fin (s1 : Bool) (m1 : Nat) (e1 : Int) (s2 : Bool) (m2 : Nat) (e2 : Int) :
    lt (fin s1 m1 e1) (fin s2 m2 e2) = true ↔
      (toRat (fin s1 m1 e1)).1 * nw e2 < (toRat (fin s2 m2 e2)).1 * nw e1 := by
  simp only [lt, toRat_fin, decide_eq_true_eq]

theorem le_fin (s1 : Bool) (m1 : Nat) (e1 : Int) (s2 : Bool) (m2 : Nat) (e2 : Int) :
    le (fin s1 m1 e1) (fin s2 m2 e2) = true ↔
      (toRat (fin s1 m1 e1)).1 * nw e2 ≤ (toRat (fin s2 m2 e2)).1 * nw e1 := by
  simp only [le, Bool.or_eq_true, lt_fin, Int.le_iff_lt_or_eq, eq, toRat_fin, beq_iff_eq]

theorem lt_eq_not_le (x y : F64) (hx : x.isFinite = true) (hy : y.isFinite = true) :
    lt x y = !le y x := by
  match x, y, hx, hy with
  | fin s1 m1 e1, fin s2 m2 e2, _, _ =>
    rw [Bool.eq_iff_iff, Bool.not_eq_true', ← Bool.not_eq_true, lt_fin, le_fin, Int.not_le]

/-- `x < 0.0` on a finite double: negative sign and not a zero -/
theorem isNeg_fin (s : Bool) (m : Nat) (e : Int) : isNeg (fin s m e) = (s && decide (m ≠ 0)) := by
  have hv := Nat.mul_pos_iff_of_pos_right (a := m) (pw_pos e)
  -- `x < 0.0` compares `±(m·pw e)·nw (-1074)` with `0·nw e`, and `nw (-1074)` is positive
  rw [Bool.eq_iff_iff, isNeg, zero, lt_fin, toRat_fin, toRat_fin]
  simp only [Bool.false_eq_true, if_false, Nat.zero_mul, Int.natCast_zero, Int.zero_mul]
  rw [← Int.zero_mul (nw (-1074) : Int), Int.mul_lt_mul_right (Int.natCast_pos.2 (nw_pos _))]
  generalize m * pw e = v at hv ⊢
  cases s <;> simp
  omega

theorem toRat_num {s : Bool} {m : Nat} (e : Int) (h : s = false ∨ m = 0) :
    (toRat (fin s m e)).1 = ((m * pw e : Nat) : Int) := by
  rcases h with h | h <;> simp [toRat_fin, h]

theorem le_nonneg {s1 : Bool} {m1 : Nat} {e1 : Int} {s2 : Bool} {m2 : Nat} {e2 : Int}
    (h1 : s1 = false ∨ m1 = 0) (h2 : s2 = false ∨ m2 = 0) :
    le (fin s1 m1 e1) (fin s2 m2 e2) = true ↔ m1 * pw e1 * nw e2 ≤ m2 * pw e2 * nw e1 := by
  rw [le_fin, toRat_num e1 h1, toRat_num e2 h2, ← Int.natCast_mul, ← Int.natCast_mul, Int.ofNat_le]

/-- a finite double that is not `< 0.0` is a zero (of either sign) or positive -/
theorem nonneg_cases {x : F64} (hf : x.isFinite = true) (hn : x.isNeg = false) :
    (∃ s e, x = fin s 0 e) ∨ (∃ m e, m ≠ 0 ∧ x = fin false m e) := by
  match x, hf with
  | fin s m e, _ =>
    rw [isNeg_fin] at hn
    by_cases hm : m = 0
    · exact .inl ⟨s, e, by rw [hm]⟩
    · cases s <;> simp_all

/-- **`ticks` is monotone** on finite, non-negative doubles -/
theorem ticks_mono (x y : F64) (hx : x.isFinite = true) (hy : y.isFinite = true)
    (nx : x.isNeg = false) (ny : y.isNeg = false) (h : le x y = true) : ticks x ≤ ticks y := by
  rcases nonneg_cases hx nx with ⟨s1, e1, rfl⟩ | ⟨m1, e1, z1, rfl⟩
  · rw [ticks_zero]; exact Nat.zero_le _
  · rcases nonneg_cases hy ny with ⟨s2, e2, rfl⟩ | ⟨m2, e2, z2, rfl⟩
    · -- a positive value is not below a zero
      rw [le_nonneg (.inl rfl) (.inr rfl), Nat.zero_mul, Nat.zero_mul] at h
      have := Nat.mul_pos (Nat.mul_pos (Nat.pos_of_ne_zero z1) (pw_pos e1)) (nw_pos e2)
      omega
    · rw [le_nonneg (.inl rfl) (.inl rfl)] at h
      have := U_mono m1 e1 m2 e2 z1 z2 h
      unfold ticks
      rw [(mulNat_ticks m1 e1 z1).1, (mulNat_ticks m2 e2 z2).1]
      omega

/-- `x` is the decoding of a 64-bit pattern (the type `F64` also contains unnormalised triples) -/
def canon : F64 → Prop
  | fin _ m e => (m < 2^52 ∧ e = -1074) ∨ (2^52 ≤ m ∧ m < 2^53 ∧ -1074 ≤ e ∧ e ≤ 971)
  | _ => True

theorem canon_ofBits (n : Nat) : canon (ofBits n) := by
  unfold ofBits
  simp only []
  split
  · split <;> trivial
  · split
    · left; exact ⟨Nat.mod_lt _ (by decide), rfl⟩
    · next h1 h2 =>
      right
      simp only [beq_iff_eq] at h1 h2
      omega

/-- largest double whose product with 90000 rounds below 2^64 is `mStar·2^-5` -/
def mStar : Nat := 6558842337318951

theorem nw_m5 : nw (-5) = 32 := by decide
theorem pw_m5 : pw (-5) = 1 := by decide

/-- every double is at most `mStar·2^-5` or at least its successor `(mStar+1)·2^-5` -/
theorem canon_split (m : Nat) (e : Int) (hc : canon (fin false m e)) :
    m * pw e * 32 ≤ mStar * nw e ∨ (mStar + 1) * nw e ≤ m * pw e * 32 := by
  unfold canon at hc
  unfold mStar
  rcases Int.lt_trichotomy e (-5) with h | rfl | h
  · -- fewer than 2^53 units of at most 2^-6
    have := nw_ge_of_le e 6 (by omega)
    rw [pw_neg e (by omega)]
    omega
  · rw [nw_m5, pw_m5]; omega
  · -- at least 2^52 units of at least 2^-4
    have : nw e ≤ 2^4 := Nat.pow_le_pow_right (by decide) (by omega)
    have : m ≤ m * pw e := Nat.le_mul_of_pos_right _ (pw_pos e)
    omega

theorem tickInRange_pos (m : Nat) (e : Int) :
    Spec.tickInRange (fin false m e) = decide (2 * (m * pw e) * 90000 + nw e < 2 * 2^64 * nw e) := by
  simp only [Spec.tickInRange, frac_eq]

/-- on genuine doubles the model's `ticks_representable` (which looks at the *rounded* product)
    coincides with the exact rational range test of the specification -/
theorem ticksRepresentable_eq_tickInRange (x : F64) (hc : canon x) (hf : x.isFinite = true)
    (hn : x.isNeg = false) : ticksRepresentable x = Spec.tickInRange x := by
  show reprF (mulNat x 90000) = _
  rcases nonneg_cases hf hn with ⟨s, e, rfl⟩ | ⟨m, e, hm, rfl⟩
  · rw [mulNat_zero]
    cases s
    · have := nw_pos e
      rw [tickInRange_pos, reprF_fin, rhu_zero]
      symm; simp; omega
    · rfl
  · rw [(mulNat_ticks m e hm).2, tickInRange_pos, decide_eq_decide]
    have hN := nw_pos e
    -- the two tests agree on `mStar·2^-5` and on its successor, and every double is on one side of them
    have h0 : U mStar (-5) < 2^64 := by decide
    have h1 : 2^64 ≤ U (mStar + 1) (-5) := by decide
    rcases canon_split m e hc with hA | hB
    · have hU := U_mono m e mStar (-5) hm (by decide) (by rw [nw_m5, pw_m5, Nat.mul_one]; exact hA)
      unfold mStar at hA
      exact ⟨fun _ => by omega, fun _ => by omega⟩
    · have hU := U_mono (mStar + 1) (-5) m e (by decide) hm (by rw [nw_m5, pw_m5, Nat.mul_one]; exact hB)
      unfold mStar at hB
      exact ⟨fun h => by omega, fun h => by omega⟩

end Muxide.F64
