import Muxide.Lemmas.F64
import Muxide.Spec.Expect
/-
  Muxide.Lemmas.F64Div — rounding error of `ticks as f64 / 90000.0` (the statistics' duration):
  both operands are exact, so the quotient is the rounding of m/90000 (`div_ofNat`), and for fewer than
  2^53 ticks that double is within one tick of m when read back (`roundPos_within`).
-/
namespace Muxide.F64

/-- round-to-nearest: the result is within half a unit of the exact quotient -/
theorem rne_half (a b : Nat) (hb : 0 < b) :
    2 * (rne a b * b) ≤ 2 * a + b ∧ 2 * a ≤ 2 * (rne a b * b) + b := by
  have h := Nat.div_add_mod a b
  have hr := Nat.mod_lt a hb
  rw [rne_eq, Nat.add_mul, Nat.mul_comm (a / b) b]
  split
  · rw [Nat.one_mul]; omega
  · rw [Nat.zero_mul]; omega

theorem rne_one (a : Nat) : rne a 1 = a := by
  unfold rne; simp [Nat.mod_one]

theorem nw_neg (e : Int) (h : e ≤ 0) : nw e = 2 ^ (-e).toNat := rfl

/-- a positive integer below 2^53 converts exactly: `m as f64` is a double of value `m` -/
theorem ofNat_exact (m : Nat) (h0 : m ≠ 0) (h : m < 2 ^ 53) :
    ∃ M E, M ≠ 0 ∧ ofNat m = fin false M E ∧ M * pw E = m * nw E := by
  have he : expOf m 1 ≤ 0 := expOf_le m 1 h0 (by decide) 0 (by decide) ((below_add m 1 0 53).2 (by
    rw [nw_nonneg 0 (by decide), pw_neg 0 (by decide)]; omega))
  have h2 := (below_add m 1 _ 53).1 (expOf_spec m 1 h0 (by decide)).2.1
  have hpw := pw_neg _ he
  rw [hpw] at h2
  refine ⟨m * nw (expOf m 1), expOf m 1, Nat.mul_ne_zero h0 (Nat.ne_of_gt (nw_pos _)), ?_, by rw [hpw, Nat.mul_one]⟩
  -- the scaled numerator is an integer: nothing to round, no carry, no overflow
  rw [ofNat, roundPos_eq false m 1 h0, preQ, hpw, Nat.one_mul, rne_one, mk, if_neg (by omega), if_neg (by omega)]

/-- `a as f64 / b as f64` for integers below 2^53 is the rounding of the exact `a/b` -/
theorem div_ofNat (a b : Nat) (ha0 : a ≠ 0) (hb0 : b ≠ 0) (ha : a < 2 ^ 53) (hb : b < 2 ^ 53) :
    div (ofNat a) (ofNat b) = roundPos false a b := by
  obtain ⟨A, E, hA0, hA, vA⟩ := ofNat_exact a ha0 ha
  obtain ⟨B, F, hB0, hB, vB⟩ := ofNat_exact b hb0 hb
  have pE := pw_pos E; have nE := nw_pos E; have pF := pw_pos F; have nF := nw_pos F
  rw [hA, hB]
  simp only [div, beq_iff_eq, hB0, if_false, frac_eq, bne_self_eq_false]
  apply roundPos_congr
  · exact Nat.mul_ne_zero (Nat.mul_ne_zero hA0 (by omega)) (by omega)
  · exact Nat.mul_ne_zero (by omega) (Nat.mul_ne_zero hB0 (by omega))
  · exact hb0
  · rw [vA, vB]; ac_rfl

/-- a value `t` within `c/2` of `x`, on a scale where one tick is `w ≥ c/2` -/
theorem tick_close (t x w c : Nat) (hlo : 2 * x ≤ 2 * t + c) (hhi : 2 * t ≤ 2 * x + c) (hw : c ≤ 2 * w) :
    (if x ≥ t then x - t else t - x) ≤ w := by
  split <;> omega

/-- `frac`-based reading back of a rounded quotient: no carry -/
theorem tick_nocarry (m q : Nat) (e : Int) (he : e ≤ -16)
    (hlo : 2 * (q * 90000) ≤ 2 * (m * nw e) + 90000)
    (hhi : 2 * (m * nw e) ≤ 2 * (q * 90000) + 90000) :
    (if q * pw e * 90000 ≥ m * nw e then q * pw e * 90000 - m * nw e else m * nw e - q * pw e * 90000) ≤ nw e := by
  have hnwe : 2 ^ 16 ≤ nw e := nw_ge_of_le e 16 (by omega)
  rw [pw_neg _ (by omega), Nat.mul_one]
  exact tick_close _ _ _ 90000 hlo hhi (by omega)

/-- the carry case: the mantissa rounded up to 2^53 and is renormalised to 2^52 with exponent e + 1; the
    scale is twice as coarse and the distance half as large -/
theorem tick_carry (m : Nat) (e : Int) (he : e ≤ -16)
    (hlo : 2 * (2 ^ 53 * 90000) ≤ 2 * (m * nw e) + 90000)
    (hhi : 2 * (m * nw e) ≤ 2 * (2 ^ 53 * 90000) + 90000) :
    (if 2 ^ 53 / 2 * pw (e + 1) * 90000 ≥ m * nw (e + 1) then 2 ^ 53 / 2 * pw (e + 1) * 90000 - m * nw (e + 1)
     else m * nw (e + 1) - 2 ^ 53 / 2 * pw (e + 1) * 90000) ≤ nw (e + 1) := by
  have hnw' : nw e = 2 * nw (e + 1) := by
    have := pw_nw_succ e
    rwa [pw_neg _ (by omega), pw_neg _ (by omega), Nat.one_mul, Nat.one_mul] at this
  have h15 : 2 ^ 15 ≤ nw (e + 1) := nw_ge_of_le (e + 1) 15 (by omega)
  have hm2 : m * nw e = 2 * (m * nw (e + 1)) := by rw [hnw', Nat.mul_left_comm]
  rw [hm2] at hlo hhi
  rw [pw_neg _ (by omega), Nat.mul_one]
  exact tick_close _ _ _ 45000 (by omega) (by omega) (by omega)

open Muxide.Spec

/-- m/90000 with m < 2^53 has an exponent of at most -16 (2^16 < 90000), and its rounding, which is within
    half a unit of the last place, reads back to within one tick -/
theorem roundPos_within (m : Nat) (h0 : m ≠ 0) (hm : m < 2 ^ 53) :
    within1Tick (roundPos false m 90000) m = true := by
  have he : expOf m 90000 ≤ -16 := expOf_le m 90000 h0 (by decide) (-16) (by decide) ((below_add m 90000 (-16) 53).2 (by
    rw [show nw (-16) = 2 ^ 16 from rfl, pw_neg _ (by decide)]; omega))
  have hq := (preQ_range m 90000 h0 (by decide)).1
  have hb := rne_half (m * nw (expOf m 90000)) (90000 * pw (expOf m 90000)) (Nat.mul_pos (by decide) (pw_pos _))
  rw [roundPos_eq false m 90000 h0]
  unfold preQ at hq ⊢
  rw [pw_neg _ (by omega), Nat.mul_one] at hq hb ⊢
  -- the mantissa as it is, or the carry; the exponent is too small for an overflow
  rcases mk_cases false _ _ hq with ⟨h, _⟩ | ⟨h, hc, _⟩ | ⟨_, h971⟩
  · rw [h]
    simp only [within1Tick, frac_eq, decide_eq_true_eq]
    exact tick_nocarry m _ _ he hb.1 hb.2
  · rw [h]
    simp only [within1Tick, frac_eq, decide_eq_true_eq]
    rw [hc] at hb
    exact tick_carry m _ he hb.1 hb.2
  · omega

end Muxide.F64
