import Muxide.Lemmas.Bytes
import Muxide.Spec.Reader
/-
  Muxide.Lemmas.Box — the generic round trip: the serialisation of any box tree that conforms
  to a container schema parses back (with the independent reader `Spec.parseBox`) to exactly
  that tree, consuming exactly its bytes.  `Shape` is conformance without the 32-bit size bounds (what the builders'
  trees have whatever their arguments); at the end the version/flags word of a FullBox, the leaf/node projections,
  `child?` on a list, and the type skeleton `Skel` of a tree.
-/
namespace Muxide
open Muxide.Spec

mutual
/-- `b` is well-formed with respect to the schema: 4-byte type, 32-bit size, leaves have no
    children, containers have exactly the schema's fixed-prefix length; recursively. -/
def Conforms (sc : Schema) : Box → Prop
  | Box.mk t p ks => t.length = 4 ∧ 8 + p.length + Box.sizes ks < 2^32 ∧
      (match sc t with
       | none => ks = []
       | some n => p.length = n) ∧ ConformsL sc ks
def ConformsL (sc : Schema) : List Box → Prop
  | [] => True
  | b :: bs => Conforms sc b ∧ ConformsL sc bs
end

mutual
/-- fuel that `parseBox` / `parseBoxes` need: one unit per nesting level and one per sibling -/
def depth : Box → Nat
  | Box.mk _ _ ks => 1 + depthL ks
def depthL : List Box → Nat
  | [] => 0
  | b :: bs => max (depth b) (depthL bs) + 1
end

mutual
/-- `Conforms` minus the 32-bit size bounds -/
def Shape (sc : Schema) : Box → Prop
  | Box.mk t p ks => t.length = 4 ∧
      (match sc t with
       | none => ks = []
       | some n => p.length = n) ∧ ShapeL sc ks
def ShapeL (sc : Schema) : List Box → Prop
  | [] => True
  | b :: bs => Shape sc b ∧ ShapeL sc bs
end

variable {sc : Schema}

mutual
theorem shape_of_conforms : ∀ (b : Box), Conforms sc b → Shape sc b
  | Box.mk _ _ ks, h => ⟨h.1, h.2.2.1, shapeL_of_conformsL ks h.2.2.2⟩
theorem shapeL_of_conformsL : ∀ (bs : List Box), ConformsL sc bs → ShapeL sc bs
  | [], _ => trivial
  | b :: bs, h => ⟨shape_of_conforms b h.1, shapeL_of_conformsL bs h.2⟩
end

mutual
theorem ser_len_shape : ∀ (b : Box), Shape sc b → (Box.ser b).length = Box.size b
  | Box.mk t p ks, h => by
    have hk := sers_len_shape ks h.2.2
    simp [Box.ser, Box.size, h.1, hk]
    omega
theorem sers_len_shape : ∀ (bs : List Box), ShapeL sc bs → (Box.sers bs).length = Box.sizes bs
  | [], _ => rfl
  | b :: bs, h => by simp [Box.sers, Box.sizes, ser_len_shape b h.1, sers_len_shape bs h.2]
end

theorem ser_len : ∀ (b : Box), Conforms sc b → (Box.ser b).length = Box.size b :=
  fun b h => ser_len_shape b (shape_of_conforms b h)
theorem sers_len : ∀ (bs : List Box), ConformsL sc bs → (Box.sers bs).length = Box.sizes bs :=
  fun bs h => sers_len_shape bs (shapeL_of_conformsL bs h)

theorem ser_ne_nil (b : Box) : Box.ser b ≠ [] := by
  cases b; simp [Box.ser, u32be]

mutual
theorem parseBox_ser : ∀ (b : Box) (rest : Bytes) (fuel : Nat), Conforms sc b → depth b < fuel →
    parseBox sc fuel (Box.ser b ++ rest) = some (b, rest)
  | _, _, 0, _, hf => by simp at hf
  | Box.mk t p ks, rest, fuel + 1, ⟨ht, hsz, hsc, hks⟩, hf => by
    have hl := sers_len ks hks
    simp only [Box.ser, List.append_assoc, parseBox, readU32_u32be _ hsz]
    rw [if_neg (by omega), if_neg (by simp [ht, hl]; omega)]
    -- four bytes of type, then `size - 8` bytes of payload
    rw [List.take_left' ht, List.drop_left' ht, ← List.append_assoc p, List.take_left' (by simp [hl]; omega),
      List.drop_left' (by simp [hl]; omega)]
    cases hs : sc t with
    | none =>
      rw [hs] at hsc; subst hsc
      simp [Box.sers]
    | some n =>
      rw [hs] at hsc; subst hsc
      simp only [List.length_append, Nat.not_lt_of_le (Nat.le_add_right _ _), if_false,
        List.drop_left, List.take_left]
      rw [parseBoxes_sers ks fuel hks (by simp [depth] at hf; omega)]
theorem parseBoxes_sers : ∀ (bs : List Box) (fuel : Nat), ConformsL sc bs → depthL bs < fuel →
    parseBoxes sc fuel (Box.sers bs) = some bs
  | _, 0, _, hf => by simp at hf
  | [], fuel + 1, _, _ => by simp [Box.sers, parseBoxes]
  | b :: bs, fuel + 1, h, hf => by
    have hd : depth b < fuel ∧ depthL bs < fuel := by simp [depthL] at hf; omega
    simp only [Box.sers, parseBoxes, List.append_eq_nil_iff, ser_ne_nil, false_and, if_false,
      parseBox_ser b _ fuel h.1 hd.1, parseBoxes_sers bs fuel h.2 hd.2]
end

theorem size_pos (b : Box) : 8 ≤ Box.size b := by
  cases b; simp [Box.size]; omega

mutual
/-- all sub-box sizes are bounded by the size of the root -/
theorem conforms_of_shape : ∀ (b : Box), Shape sc b → Box.size b < 2^32 → Conforms sc b
  | Box.mk t p ks, h, hs => by
    simp only [Box.size] at hs
    exact ⟨h.1, hs, h.2.1, conformsL_of_shapeL ks h.2.2 (by omega)⟩
theorem conformsL_of_shapeL : ∀ (bs : List Box), ShapeL sc bs → Box.sizes bs < 2^32 → ConformsL sc bs
  | [], _, _ => trivial
  | b :: bs, h, hs => by
    simp only [Box.sizes] at hs
    exact ⟨conforms_of_shape b h.1 (by omega), conformsL_of_shapeL bs h.2 (by omega)⟩
end

theorem shapeL_append (as bs : List Box) : ShapeL sc (as ++ bs) ↔ ShapeL sc as ∧ ShapeL sc bs := by
  induction as with
  | nil => simp [ShapeL]
  | cons a as ih => simp [ShapeL, ih, and_assoc]

theorem conformsL_append (as bs : List Box) : ConformsL sc (as ++ bs) ↔ ConformsL sc as ∧ ConformsL sc bs := by
  induction as with
  | nil => simp [ConformsL]
  | cons a as ih => simp [ConformsL, ih, and_assoc]

theorem sizes_append (as bs : List Box) : Box.sizes (as ++ bs) = Box.sizes as + Box.sizes bs := by
  induction as with
  | nil => simp [Box.sizes]
  | cons a as ih => simp [Box.sizes, ih]; omega

theorem sers_append (as bs : List Box) : Box.sers (as ++ bs) = Box.sers as ++ Box.sers bs := by
  induction as with
  | nil => simp [Box.sers]
  | cons a as ih => simp [Box.sers, ih]

theorem shape_leaf (t : String) (p : Bytes) (h4 : (ascii t).length = 4) (hs : sc (ascii t) = none) :
    Shape sc (Box.leaf t p) := by
  simp [Box.leaf, Shape, ShapeL, h4, hs]

theorem shape_node (t : String) (pre : Bytes) (kids : List Box) (n : Nat) (h4 : (ascii t).length = 4)
    (hs : sc (ascii t) = some n) (hp : pre.length = n) (hk : ShapeL sc kids) :
    Shape sc (Box.node t pre kids) := by
  simp [Box.node, Shape, h4, hs, hp, hk]

mutual
theorem depth_le_size : ∀ (b : Box), depth b + 7 ≤ Box.size b
  | Box.mk _ p ks => by
    have := depthL_le_sizes ks
    simp only [depth, Box.size]; omega
theorem depthL_le_sizes : ∀ (bs : List Box), depthL bs ≤ Box.sizes bs
  | [] => by simp [depthL]
  | b :: bs => by
    have h1 := depth_le_size b
    have h2 := depthL_le_sizes bs
    simp only [depthL, Box.sizes]; omega
end

/-- the fuel `parseFileTree` computes from the file length is always sufficient -/
theorem parseFileTree_sers (bs : List Box) (h : ConformsL isoSchema bs) :
    parseFileTree (Box.sers bs) = some bs := by
  unfold parseFileTree
  apply parseBoxes_sers bs _ h
  have := depthL_le_sizes bs
  rw [sers_len bs h]; omega

theorem fullBox_u32be (vf : Nat) (h : vf < 2^32) (rest : Bytes) :
    fullBox (u32be vf ++ rest) = some (vf / 2^24, vf % 2^24, rest) := by
  simp [fullBox, readU32_u32be _ h]

section
open Box
@[simp] theorem leaf_typ (s : String) (p : Bytes) : (leaf s p).typ = ascii s := rfl
@[simp] theorem node_typ (s : String) (p : Bytes) (k : List Box) : (node s p k).typ = ascii s := rfl
@[simp] theorem node_kids (s : String) (p : Bytes) (k : List Box) : (node s p k).kids = k := rfl
end
namespace Box
@[simp] theorem pre_leaf (t : String) (p : Bytes) : (leaf t p).pre = p := rfl
@[simp] theorem kids_leaf (t : String) (p : Bytes) : (leaf t p).kids = [] := rfl
@[simp] theorem pre_node (t : String) (p : Bytes) (ks : List Box) : (node t p ks).pre = p := rfl
end Box

@[simp] theorem child?_nil (t : String) : child? t [] = none := rfl

/-- `child?` looks at one box at a time. With the lemmas above, a lookup in a list of `leaf`s and
    `node`s comes down to comparing the `ascii` of two literals, which `simp (decide := true)`
    settles (a hit needs no evaluation at all). -/
theorem child?_cons (t : String) (b : Box) (bs : List Box) :
    child? t (b :: bs) = if b.typ = ascii t then some b else child? t bs := by
  unfold child? tag
  rw [List.find?_cons]
  by_cases h : b.typ = ascii t <;> simp [h]

theorem child?_cons_pos {t : String} {b : Box} (bs : List Box) (h : b.typ = tag t) :
    child? t (b :: bs) = some b :=
  (child?_cons t b bs).trans (if_pos h)

theorem child?_cons_neg {t : String} {b : Box} (bs : List Box) (h : b.typ ≠ tag t) :
    child? t (b :: bs) = child? t bs :=
  (child?_cons t b bs).trans (if_neg h)

/-- a box tree reduced to its types: what the child-order theorems of C02 compare -/
inductive Skel where
  | mk (typ : Bytes) (kids : List Skel)

/-- for writing a skeleton down: `S "mvex" [S "trex"]` -/
def S (t : String) (kids : List Skel := []) : Skel := .mk (ascii t) kids

mutual
def Box.skel : Box → Skel
  | Box.mk t _ ks => .mk t (Box.skels ks)
def Box.skels : List Box → List Skel
  | [] => []
  | b :: bs => Box.skel b :: Box.skels bs
end

theorem skels_append (as bs : List Box) : Box.skels (as ++ bs) = Box.skels as ++ Box.skels bs := by
  induction as with
  | nil => simp [Box.skels]
  | cons a as ih => simp [Box.skels, ih]

theorem skels_eq_map (bs : List Box) : Box.skels bs = bs.map Box.skel := by
  induction bs with
  | nil => rfl
  | cons a as ih => simp [Box.skels, ih]

def Skel.typ : Skel → Bytes | .mk t _ => t
def Skel.kids : Skel → List Skel | .mk _ k => k

theorem skel_kids_typ (b : Box) : b.skel.kids.map Skel.typ = b.kids.map Box.typ := by
  cases b with
  | mk t p ks =>
    simp only [Box.skel, Skel.kids, Box.kids, skels_eq_map, List.map_map]
    apply List.map_congr_left; intro a _; cases a; rfl

end Muxide
