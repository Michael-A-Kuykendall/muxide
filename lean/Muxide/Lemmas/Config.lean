import Muxide.Model.Mp4
import Muxide.Spec.Contract
import Muxide.Lemmas.ParamSets
/- Muxide.Lemmas.Config — the model's codec-configuration extractors vs the spec's `carriesConfig`. -/
namespace Muxide
open Muxide.Spec

def codecS : VCodec → VCodecS
  | .h264 => .h264 | .h265 => .h265 | .av1 => .av1 | .vp9 => .vp9

theorem firstOfType_isSome (ty : Bytes → Nat) (k : Nat) (l : List Bytes) :
    (firstOfType ty k l).isSome = ((l.filter (· ≠ [])).map ty).contains k := by
  rw [Bool.eq_iff_iff, List.contains_iff_mem, firstOfType, List.find?_isSome]
  simp only [List.mem_map, decide_eq_true_eq]

theorem nals_nil : nals [] = [] := by simp [nals, nalsAux, findSC]

/-- `extract_avc_config` succeeds iff the frame has an SPS and a PPS: the scan returns the first of each
    (`avcScan_eq`) -/
theorem extractAvc_isSome (d : Bytes) :
    (extractAvc d).isSome =
      ((((nals d).filter (· ≠ [])).map h264NalType).contains 7 &&
       (((nals d).filter (· ≠ [])).map h264NalType).contains 8) := by
  unfold extractAvc
  by_cases hd : d = []
  · simp [hd, nals_nil]
  · rw [if_neg hd, avcScan_eq, ← firstOfType_isSome, ← firstOfType_isSome]
    cases firstOfType h264NalType 7 (nals d) <;> cases firstOfType h264NalType 8 (nals d) <;> rfl

theorem extractHevc_isSome (d : Bytes) :
    (extractHevc d).isSome =
      ((((nals d).filter (· ≠ [])).map hevcNalType).contains 32 &&
       (((nals d).filter (· ≠ [])).map hevcNalType).contains 33 &&
       (((nals d).filter (· ≠ [])).map hevcNalType).contains 34) := by
  unfold extractHevc
  by_cases hd : d = []
  · simp [hd, nals_nil]
  · rw [if_neg hd, hevcScan_eq, ← firstOfType_isSome, ← firstOfType_isSome, ← firstOfType_isSome]
    cases firstOfType hevcNalType 32 (nals d) <;> cases firstOfType hevcNalType 33 (nals d) <;>
      cases firstOfType hevcNalType 34 (nals d) <;> rfl

theorem hevcNalType_eq (n : Bytes) : hevcNalType n = (n.headD 0).toNat / 2 % 64 := by
  cases n <;> simp [hevcNalType]

theorem obus_nil : obus [] = [] := by simp [obus, obusAux]

theorem extractAv1Aux_eq (l : List (ObuInfo × Bytes)) :
    extractAv1Aux l =
      match l.find? (·.1.obuType = 1) with
      | none => .none
      | some (info, obu) => parseSequenceHeader obu info.headerSize := by
  induction l with
  | nil => rfl
  | cons x xs ih =>
    unfold extractAv1Aux
    rw [List.find?_cons]
    by_cases h1 : x.1.obuType = 1
    · rw [if_pos h1, decide_eq_true h1]
    · rw [if_neg h1, decide_eq_false h1, ih]

theorem parseSequenceHeader_isSome (obu : Bytes) (hs : Nat) :
    (match parseSequenceHeader obu hs with | .some _ => true | .none => false) =
      (obu.drop hs ≠ [] && (match rbits 3 (bitsOf (obu.drop hs)) with | some (p, _) => p ≤ 3 | none => false) &&
        (parseSeqHdrBits av1FixedDmi (bitsOf (obu.drop hs))).isSome) := by
  unfold parseSequenceHeader
  by_cases hp : obu.drop hs = []
  · simp [hp]
  rw [if_neg hp, decide_eq_true hp, Bool.true_and]
  dsimp only
  cases rbits 3 (bitsOf (obu.drop hs)) with
  | none => rfl
  | some pr =>
    obtain ⟨p, r⟩ := pr
    dsimp only
    by_cases h3 : p > 3
    · rw [if_pos h3, decide_eq_false (Nat.not_le.mpr h3)]; rfl
    · rw [if_neg h3, decide_eq_true (Nat.not_lt.mp h3), Bool.true_and]
      cases parseSeqHdrBits av1FixedDmi (bitsOf (obu.drop hs)) <;> rfl

theorem extractConfig_h264 (d : Bytes) :
    (∃ cfg, extractConfig .h264 d = .some cfg) ↔ (extractAvc d).isSome = true := by
  unfold extractConfig; cases extractAvc d <;> simp
theorem extractConfig_h265 (d : Bytes) :
    (∃ cfg, extractConfig .h265 d = .some cfg) ↔ (extractHevc d).isSome = true := by
  unfold extractConfig; cases extractHevc d <;> simp
theorem extractConfig_vp9 (d : Bytes) :
    (∃ cfg, extractConfig .vp9 d = .some cfg) ↔ (extractVp9 d).isSome = true := by
  unfold extractConfig; cases extractVp9 d <;> simp
theorem extractConfig_av1 (d : Bytes) :
    (∃ cfg, extractConfig .av1 d = .some cfg) ↔
      (match extractAv1 d with | .some _ => true | .none => false) = true := by
  unfold extractConfig; cases extractAv1 d <;> simp

/-- the model finds a codec configuration in the frame exactly when the frame carries one in the
    sense of the specification (given that the model's NAL scanner computes the declarative split) -/
theorem extractConfig_some_iff (hsplit : ∀ d, nals d = splitAnnexB d) (c : VCodec) (d : Bytes) :
    (∃ cfg, extractConfig c d = .some cfg) ↔ carriesConfig (codecS c) d = true := by
  cases c with
  | h264 =>
    rw [extractConfig_h264, extractAvc_isSome, hsplit]
    rfl
  | h265 =>
    rw [extractConfig_h265, extractHevc_isSome, hsplit, funext hevcNalType_eq]
    rfl
  | av1 =>
    rw [extractConfig_av1]
    simp only [codecS, carriesConfig]
    unfold extractAv1
    by_cases hd : d = []
    · simp [hd, obus_nil]
    · rw [if_neg hd, extractAv1Aux_eq]
      cases (obus d).find? (·.1.obuType = 1) with
      | none => rfl
      | some x => exact Iff.of_eq (congrArg (· = true) (parseSequenceHeader_isSome x.2 x.1.headerSize))
  | vp9 =>
    rw [extractConfig_vp9]
    simp only [codecS, carriesConfig]
end Muxide
