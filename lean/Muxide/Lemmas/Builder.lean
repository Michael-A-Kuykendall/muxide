import Muxide.Spec.BuilderSpec
/-
  Lemmas about the builder state machine: every field of the state after a call sequence is the
  declarative "last call of its kind" of Spec.BuilderSpec.
-/
namespace Muxide
open Spec

theorem lastSome_nil {α β : Type} (f : α → Option β) : lastSome f ([] : List α) = none := rfl

theorem lastSome_append {α β : Type} (f : α → Option β) (l₁ l₂ : List α) :
    lastSome f (l₁ ++ l₂) = (lastSome f l₂).or (lastSome f l₁) := by
  simp [lastSome, List.findSome?_append]

theorem lastSome_cons {α β : Type} (f : α → Option β) (a : α) (l : List α) :
    lastSome f (a :: l) = (lastSome f l).or (f a) := by
  simp [lastSome]

theorem lastSome_eq_none_iff {α β : Type} (f : α → Option β) (l : List α) :
    lastSome f l = none ↔ ∀ a ∈ l, f a = none := by
  simp [lastSome]

theorem lastSome_filter {α β : Type} (f : α → Option β) (p : α → Bool) (h : ∀ a, p a = false → f a = none)
    (l : List α) : lastSome f (l.filter p) = lastSome f l := by
  induction l with
  | nil => rfl
  | cons a l ih =>
    cases hp : p a
    · rw [List.filter_cons_of_neg (by simp [hp]), ih, lastSome_cons, h a hp, Option.or_none]
    · rw [List.filter_cons_of_pos hp, lastSome_cons, lastSome_cons, ih]

theorem effMetadata_filter (p : BOp → Bool) (hp : ∀ op l, p op = false → effMetadata (op :: l) = effMetadata l)
    (l : List BOp) : effMetadata (l.filter p) = effMetadata l := by
  induction l with
  | nil => rfl
  | cons op l ih =>
    cases h : p op
    · rw [List.filter_cons_of_neg (by simp [h]), ih, hp op l h]
    · -- what `op` leaves depends on the earlier calls only through the metadata they left
      rw [List.filter_cons_of_pos h]
      cases op <;> simp [effMetadata, ih]

theorem effectiveConfig_snoc_audio (ops : List BOp) (a : AudioTrack) :
    effectiveConfig (ops ++ [.audio a]) = (effectiveConfig ops).map ({ · with audio := some a }) := by
  simp only [effectiveConfig, lastSome_append, List.reverse_append]
  cases lastSome videoOf ops <;> rfl

/-- without its audio calls a sequence denotes the same configuration, less the audio track: a video or
    fast-start call is never an audio call, and an audio call leaves the metadata alone -/
theorem effectiveConfig_filter_audio (ops : List BOp) :
    effectiveConfig (ops.filter fun op => (audioOf op).isNone) =
      (effectiveConfig ops).map ({ · with audio := none }) := by
  unfold effectiveConfig
  rw [lastSome_filter videoOf _ (fun op h => by cases op <;> simp_all [audioOf, videoOf]),
    lastSome_filter fastOf _ (fun op h => by cases op <;> simp_all [audioOf, fastOf]),
    (lastSome_eq_none_iff audioOf _).2 (fun op h => by simpa using (List.mem_filter.1 h).2),
    ← List.filter_reverse,
    effMetadata_filter _ (fun op l h => by cases op <;> simp_all [audioOf, effMetadata])]
  cases lastSome videoOf ops <;> rfl

/-- a field that every call either sets or leaves alone holds the value of the last call that set it -/
theorem foldl_field {β : Type} (get : Builder → Option β) (f : BOp → Option β)
    (hstep : ∀ b op, get (b.step op) = (f op).or (get b)) (ops : List BOp) (b : Builder) :
    get (ops.foldl Builder.step b) = (lastSome f ops).or (get b) := by
  induction ops generalizing b with
  | nil => simp [lastSome_nil]
  | cons op ops ih =>
    rw [List.foldl_cons, ih, lastSome_cons, hstep]
    cases lastSome f ops <;> simp

theorem step_video (b : Builder) (op : BOp) : (b.step op).video = (videoOf op).or b.video := by
  cases op <;> rfl

theorem step_audio (b : Builder) (op : BOp) : (b.step op).audio = (audioOf op).or b.audio := by
  cases op <;> rfl

theorem foldl_video (ops : List BOp) (b : Builder) :
    (ops.foldl Builder.step b).video = (lastSome videoOf ops).or b.video :=
  foldl_field (·.video) videoOf step_video ops b

theorem foldl_audio (ops : List BOp) (b : Builder) :
    (ops.foldl Builder.step b).audio = (lastSome audioOf ops).or b.audio :=
  foldl_field (·.audio) audioOf step_audio ops b

theorem run_field {β : Type} (get : Builder → Option β) (f : BOp → Option β) (hnew : get Builder.new = none)
    (hstep : ∀ b op, get (b.step op) = (f op).or (get b)) (ops : List BOp) :
    get (Builder.run ops) = lastSome f ops := by
  rw [Builder.run, foldl_field get f hstep, hnew, Option.or_none]

theorem run_video (ops : List BOp) : (Builder.run ops).video = lastSome videoOf ops :=
  run_field (·.video) videoOf rfl step_video ops
theorem run_audio (ops : List BOp) : (Builder.run ops).audio = lastSome audioOf ops :=
  run_field (·.audio) audioOf rfl step_audio ops
theorem run_sps (ops : List BOp) : (Builder.run ops).sps = lastSome spsOf ops :=
  run_field (·.sps) spsOf rfl (fun _ op => by cases op <;> rfl) ops
theorem run_pps (ops : List BOp) : (Builder.run ops).pps = lastSome ppsOf ops :=
  run_field (·.pps) ppsOf rfl (fun _ op => by cases op <;> rfl) ops
theorem run_vps (ops : List BOp) : (Builder.run ops).vps = lastSome vpsOf ops :=
  run_field (·.vps) vpsOf rfl (fun _ op => by cases op <;> rfl) ops
theorem run_av1 (ops : List BOp) : (Builder.run ops).av1 = lastSome av1Of ops :=
  run_field (·.av1) av1Of rfl (fun _ op => by cases op <;> rfl) ops
theorem run_vp9 (ops : List BOp) : (Builder.run ops).vp9 = lastSome vp9Of ops :=
  run_field (·.vp9) vp9Of rfl (fun _ op => by cases op <;> rfl) ops

/-- the fast-start flag is a plain `Bool`: the same statement through `some` -/
theorem run_fast (ops : List BOp) : (Builder.run ops).fast = (lastSome fastOf ops).getD true := by
  have h := foldl_field (fun b => some b.fast) fastOf (fun b op => by cases op <;> rfl) ops Builder.new
  rw [← Builder.run] at h
  cases hl : lastSome fastOf ops <;> simp_all [Builder.new]

/-- the metadata after a call sequence, by induction on the calls from the last one back -/
theorem run_reverse_md (l : List BOp) : (Builder.run l.reverse).md = effMetadata l := by
  induction l with
  | nil => rfl
  | cons op l ih =>
    rw [List.reverse_cons, Builder.run, List.foldl_append, ← Builder.run]
    cases op <;> simp [Builder.step, effMetadata, ih]

theorem run_md (ops : List BOp) : (Builder.run ops).md = effMetadata ops.reverse := by
  rw [← run_reverse_md, List.reverse_reverse]

end Muxide
