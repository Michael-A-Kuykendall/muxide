import Muxide.Model.Mp4
import Muxide.Lemmas.Bytes
import Muxide.Spec.Reader
/-
  Muxide.Lemmas.Tables — entry counts of the sample tables (`Tables.ofSamples`) and run-length
  encoding (it expands back; adjacent runs differ; counts are positive and bounded by the input
  length).
-/
namespace Muxide
open Muxide.Spec

theorem expandRuns_append {α} (a b : List (Nat × α)) : expandRuns (a ++ b) = expandRuns a ++ expandRuns b := by
  simp [expandRuns]

theorem expandRuns_rleAux {α} [DecidableEq α] (xs : List α) (acc : List (Nat × α)) :
    expandRuns (rleAux xs acc) = expandRuns acc.reverse ++ xs := by
  induction xs generalizing acc with
  | nil => simp [rleAux]
  | cons x xs ih =>
    cases acc with
    | nil => simp only [rleAux]; rw [ih]; simp [expandRuns]
    | cons cy acc =>
      obtain ⟨c, y⟩ := cy
      simp only [rleAux]
      split
      · next h =>
        subst h
        rw [ih]
        simp [expandRuns, List.replicate_succ']
      · rw [ih]
        simp [expandRuns]

theorem expandRuns_rle {α} [DecidableEq α] (xs : List α) : expandRuns (rle xs) = xs := by
  rw [rle, expandRuns_rleAux]; simp [expandRuns]

theorem length_expandRuns {α} (l : List (Nat × α)) : (expandRuns l).length = (l.map (·.1)).sum := by
  simp [expandRuns, List.length_flatMap]

theorem counts_rle {α} [DecidableEq α] (xs : List α) : ((rle xs).map (·.1)).sum = xs.length := by
  rw [← length_expandRuns, expandRuns_rle]

/-- every run has a positive count and adjacent runs carry different values (newest-first accumulator) -/
def RunsOK {α} : List (Nat × α) → Prop
  | [] => True
  | [p] => 0 < p.1
  | p :: q :: r => 0 < p.1 ∧ p.2 ≠ q.2 ∧ RunsOK (q :: r)

theorem RunsOK_cons {α} {p : Nat × α} {l : List (Nat × α)} :
    RunsOK (p :: l) ↔ 0 < p.1 ∧ (∀ q, l.head? = some q → p.2 ≠ q.2) ∧ RunsOK l := by
  cases l <;> simp [RunsOK]

theorem RunsOK.pos {α} {l : List (Nat × α)} (h : RunsOK l) : ∀ e ∈ l, 0 < e.1 := by
  induction l with
  | nil => simp
  | cons p l ih => exact List.forall_mem_cons.mpr ⟨(RunsOK_cons.mp h).1, ih (RunsOK_cons.mp h).2.2⟩

theorem RunsOK_reverse_append {α} (l m : List (Nat × α)) :
    RunsOK (l.reverse ++ m) ↔
      RunsOK l ∧ RunsOK m ∧ ∀ p q, l.head? = some p → m.head? = some q → p.2 ≠ q.2 := by
  induction l generalizing m with
  | nil => simp [RunsOK]
  | cons a l ih =>
    rw [List.reverse_cons, List.append_assoc, List.singleton_append, ih, RunsOK_cons, RunsOK_cons]
    exact ⟨fun ⟨h1, ⟨h2, h3, h4⟩, h5⟩ =>
        ⟨⟨h2, fun q hq => (h5 q a hq rfl).symm, h1⟩, h4, fun p q hp hq => by cases hp; exact h3 q hq⟩,
      fun ⟨⟨h2, h5, h1⟩, h4, h3⟩ =>
        ⟨h1, ⟨h2, fun q hq => h3 a q rfl hq, h4⟩, fun p q hp hq => by cases hq; exact (h5 p hp).symm⟩⟩

theorem RunsOK_reverse {α} (l : List (Nat × α)) : RunsOK l.reverse ↔ RunsOK l := by
  simpa [RunsOK] using RunsOK_reverse_append l []

/-- `rleAux` keeps its accumulator (newest run first) a list of runs, and returns it turned round -/
theorem rleAux_runsOK {α} [DecidableEq α] (xs : List α) (acc : List (Nat × α)) (h : RunsOK acc) :
    RunsOK (rleAux xs acc) := by
  induction xs generalizing acc with
  | nil => exact (RunsOK_reverse acc).mpr h
  | cons x xs ih =>
    cases acc with
    | nil => exact ih _ Nat.one_pos
    | cons p acc =>
      obtain ⟨c, y⟩ := p
      simp only [rleAux]
      split
      · exact ih _ (RunsOK_cons.mpr ⟨Nat.succ_pos c, (RunsOK_cons.mp h).2⟩)
      · next hne => exact ih _ (RunsOK_cons.mpr ⟨Nat.one_pos, fun q hq => by cases hq; exact Ne.symm hne, h⟩)

theorem rle_pos {α} [DecidableEq α] (xs : List α) : ∀ e ∈ rle xs, 0 < e.1 :=
  (rleAux_runsOK xs [] trivial).pos

theorem durationsOf_length (samples : List Sample) (fb : Option Nat) :
    (durationsOf samples fb).length = samples.length := by
  simp [durationsOf]

theorem pairwise_zip_range {α} (l : List α) :
    List.Pairwise (fun a b => a.1 < b.1) (List.zip (List.range l.length) l) := by
  have h : List.Pairwise (· < ·) ((List.zip (List.range l.length) l).map Prod.fst) := by
    rw [List.map_fst_zip (by simp)]
    exact List.pairwise_lt_range
  exact (List.pairwise_map.mp h)

theorem keyframesOf_pairwise (samples : List Sample) : List.Pairwise (· < ·) (keyframesOf samples) := by
  unfold keyframesOf
  rw [List.pairwise_map]
  exact ((pairwise_zip_range samples).imp fun h => Nat.succ_lt_succ h).filter _

theorem keyframesOf_range (samples : List Sample) : ∀ k ∈ keyframesOf samples, 1 ≤ k ∧ k ≤ samples.length := by
  intro k hk
  simp only [keyframesOf, List.mem_map, List.mem_filter] at hk
  obtain ⟨⟨i, s⟩, ⟨hm, -⟩, rfl⟩ := hk
  exact ⟨Nat.le_add_left 1 i, List.mem_range.mp (List.of_mem_zip hm).1⟩

theorem rle_length_le {α} [DecidableEq α] (xs : List α) : (rle xs).length ≤ xs.length :=
  Nat.le_trans (length_le_sum_map (·.1) (rle xs) (rle_pos xs)) (Nat.le_of_eq (counts_rle xs))

theorem rle_count_le {α} [DecidableEq α] (xs : List α) : ∀ e ∈ rle xs, e.1 ≤ xs.length := by
  intro e he
  rw [← counts_rle xs]
  exact le_sum_of_mem _ _ (List.mem_map_of_mem he)

theorem rle_value_mem {α} [DecidableEq α] (xs : List α) : ∀ e ∈ rle xs, e.2 ∈ xs := by
  intro e he
  rw [← expandRuns_rle xs, expandRuns, List.mem_flatMap]
  exact ⟨e, he, List.mem_replicate.mpr ⟨Nat.ne_of_gt (rle_pos xs e he), rfl⟩⟩

end Muxide
