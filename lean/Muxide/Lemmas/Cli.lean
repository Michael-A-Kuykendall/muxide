import Muxide.Model.Cli
import Muxide.Lemmas.Box
/-
  Muxide.Lemmas.Cli — helper lemmas for C20: what `hexVal`/`hexPair`/`hexPairs` accept, what a
  successful `parseBox`/`parseBoxes` says about the bytes (declared size = `Box.size`, the boxes
  tile the input), and the agreement of the CLI `info` walk with that reader.
-/
namespace Muxide
open Muxide.Spec

theorem hexVal_isSome_iff (c : Nat) :
    (hexVal c).isSome = true ↔ (48 ≤ c ∧ c ≤ 57) ∨ (65 ≤ c ∧ c ≤ 70) ∨ (97 ≤ c ∧ c ≤ 102) := by
  unfold hexVal
  by_cases h1 : 48 ≤ c ∧ c ≤ 57
  · simp [h1]
  · by_cases h2 : 97 ≤ c ∧ c ≤ 102
    · simp [h1, h2]
    · by_cases h3 : 65 ≤ c ∧ c ≤ 70 <;> simp [h1, h2, h3]

theorem hexVal_plus : hexVal 43 = none := by decide

/-- a pair is decoded iff it is two hex digits (a leading `+` is refused) -/
theorem hexPair_isSome_iff (a b : Nat) :
    (hexPair a b).isSome = true ↔ (hexVal a).isSome = true ∧ (hexVal b).isSome = true := by
  unfold hexPair
  cases hexVal a <;> cases hexVal b <;> simp

theorem hexPairs_isSome_iff : ∀ (l : List Nat),
    (hexPairs l).isSome = true ↔ l.length % 2 = 0 ∧ ∀ c ∈ l, (hexVal c).isSome = true
  | [] => by simp [hexPairs]
  | [_] => by simp [hexPairs]
  | a :: b :: r => by
    have e : (hexPairs (a :: b :: r)).isSome = true ↔
        (hexPair a b).isSome = true ∧ (hexPairs r).isSome = true := by
      simp only [hexPairs]
      cases hexPair a b <;> cases hexPairs r <;> simp
    have : (r.length + 1 + 1) % 2 = r.length % 2 := Nat.add_mod_right _ 2
    rw [e, hexPair_isSome_iff, hexPairs_isSome_iff r]
    simp only [List.length_cons, List.mem_cons, forall_eq_or_imp, this, and_assoc, and_left_comm]

theorem hexPairs_length (l : List Nat) (d : Bytes) (h : hexPairs l = some d) : l.length = 2 * d.length := by
  fun_induction hexPairs l generalizing d with
  | case1 => cases h; rfl
  | case2 | case4 => cases h
  | case3 a b r v rest hr hv ih => cases h; simp [ih rest hr]; omega

theorem hexPairs_ne_nil {l : List Nat} {d : Bytes} (h : hexPairs l = some d) : d ≠ [] ↔ l ≠ [] := by
  have := hexPairs_length l d h
  rw [← List.length_pos_iff, ← List.length_pos_iff]; omega

/-- the non-ASCII check of the model's `readHexBytes` never decides: a character it refuses is not a hex digit, so
    the pair decoder refuses the string as well -/
theorem readHexBytes_eq (chars : List Nat) :
    readHexBytes chars = hexPairs (chars.filter fun c => !isRustWhitespace c) := by
  simp only [readHexBytes]
  split
  · next h =>
    obtain ⟨c, hc, h128⟩ := List.any_eq_true.1 h
    symm
    rw [← Option.not_isSome_iff_eq_none, hexPairs_isSome_iff]
    intro ⟨_, hall⟩
    have := (hexVal_isSome_iff c).1 (hall c hc)
    simp at h128
    omega
  · rfl

theorem readU32_some (d : Bytes) (x : Nat) (r : Bytes) (h : readU32 d = some (x, r)) :
    r = d.drop 4 ∧ 4 ≤ d.length ∧ x < 2^32 := by
  match d, h with
  | a :: b :: c :: e :: rest, h =>
    simp only [readU32, Option.some.injEq, Prod.mk.injEq] at h
    obtain ⟨hx, hr⟩ := h
    have := a.toNat_lt; have := b.toNat_lt; have := c.toNat_lt; have := e.toNat_lt
    subst hr
    refine ⟨by simp, by simp, ?_⟩
    omega

theorem parseBoxes_some {sc : Schema} {fuel : Nat} {d : Bytes} {bs : List Box} :
    parseBoxes sc fuel d = some bs →
    (d = [] ∧ bs = []) ∨ ∃ f b rest bs', fuel = f + 1 ∧ d ≠ [] ∧ parseBox sc f d = some (b, rest) ∧
      parseBoxes sc f rest = some bs' ∧ bs = b :: bs' := by
  fun_cases parseBoxes sc fuel d with
  | case1 | case3 | case4 => nofun
  | case2 => rintro ⟨⟩; exact .inl ⟨rfl, rfl⟩
  | case5 f _ hd b rest hb ks hks => rintro ⟨⟩; exact .inr ⟨f, b, rest, ks, rfl, hd, hb, hks, rfl⟩

theorem length_le_sizes : ∀ (bs : List Box), 8 * bs.length ≤ Box.sizes bs
  | [] => by simp [Box.sizes]
  | b :: bs => by
    have := size_pos b
    have := length_le_sizes bs
    simp only [Box.sizes, List.length_cons]; omega

/-- a parsed box has the size its header declares, and parsed siblings tile the input: in a leaf the
    `sz - 8` payload bytes are all prefix, in a container they are the prefix and the children -/
theorem parse_sizes (sc : Schema) (fuel : Nat) :
    (∀ d b rest, parseBox sc fuel d = some (b, rest) → readU32 d = some (b.size, d.drop 4) ∧
      b.size ≤ d.length ∧ b.typ = (d.drop 4).take 4 ∧ rest = d.drop b.size) ∧
    (∀ d bs, parseBoxes sc fuel d = some bs → Box.sizes bs = d.length) := by
  induction fuel using Nat.strongRecOn with | ind fuel ih => ?_
  constructor
  · intro d
    fun_cases parseBox sc fuel d with
    | case1 | case2 | case3 | case4 | case6 | case7 => nofun
    | case5 f _ sz r1 hr h8 hlen t payload rest' hs =>
      rintro _ _ ⟨⟩
      obtain ⟨rfl, -, -⟩ := readU32_some d sz r1 hr
      rw [List.length_drop] at hlen
      have e : (Box.mk t payload []).size = sz := by
        simp only [Box.size, Box.sizes, payload, List.length_take, List.length_drop]; omega
      rw [e]
      exact ⟨hr, by omega, rfl, by simp only [rest', List.drop_drop]; congr 1; omega⟩
    | case8 f _ sz r1 hr h8 hlen t payload rest' n hs hn ks hks =>
      rintro _ _ ⟨⟩
      obtain ⟨rfl, -, -⟩ := readU32_some d sz r1 hr
      rw [List.length_drop] at hlen
      have e : (Box.mk t (payload.take n) ks).size = sz := by
        have := (ih f f.lt_succ_self).2 _ _ hks
        simp only [Box.size, this, payload, List.length_take, List.length_drop] at hn ⊢; omega
      rw [e]
      exact ⟨hr, by omega, rfl, by simp only [rest', List.drop_drop]; congr 1; omega⟩
  · intro d bs h
    rcases parseBoxes_some h with ⟨rfl, rfl⟩ | ⟨f, b, rest, bs', rfl, _, hb, hl, rfl⟩
    · rfl
    · obtain ⟨_, hle, _, rfl⟩ := (ih f f.lt_succ_self).1 d b _ hb
      have := (ih f f.lt_succ_self).2 _ _ hl
      simp only [Box.sizes, this, List.length_drop]; omega

theorem parseBoxes_sizes (sc : Schema) (fuel : Nat) (d : Bytes) (bs : List Box)
    (h : parseBoxes sc fuel d = some bs) : Box.sizes bs = d.length :=
  (parse_sizes sc fuel).2 d bs h

theorem topLayout_length : ∀ (bs : List Box) (o : Nat), (topLayout bs o).length = bs.length
  | [], _ => rfl
  | b :: bs, o => by simp [topLayout, topLayout_length bs]

theorem infoWalk_parse (sc : Schema) : ∀ (fuel' fuel : Nat) (buf : Bytes) (off : Nat) (bs : List Box),
    parseBoxes sc fuel (buf.drop off) = some bs → off ≤ buf.length → bs.length < fuel' →
    infoWalk fuel' buf off = (topLayout bs off).map fun t => ⟨t.1, t.2.2, t.2.1, false⟩
  | 0, _, _, _, _, _, _, hf => by omega
  | fuel' + 1, fuel, buf, off, bs, h, hoff, hf => by
    rcases parseBoxes_some h with ⟨hd, rfl⟩ | ⟨f, b, rest, bs', rfl, _, hb, hl, rfl⟩
    · have : buf.length ≤ off := by simpa using hd
      simp only [infoWalk, topLayout, List.map_nil, if_pos (show off + 8 > buf.length by omega)]
    · obtain ⟨hr, hle, htyp, rfl⟩ := (parse_sizes sc f).1 _ _ _ hb
      have := size_pos b
      rw [List.length_drop] at hle
      rw [List.drop_drop] at hl htyp
      have ih := infoWalk_parse sc fuel' f buf (off + b.size) bs' hl (by omega) (by simp at hf; omega)
      simp only [infoWalk, hr, ← htyp, ih, topLayout, List.map_cons, if_neg (show ¬ off + 8 > buf.length by omega),
        if_neg (show ¬ b.size = 0 by omega), if_neg (show ¬ off + b.size > buf.length by omega)]

theorem infoBoxes_parse (sc : Schema) (fuel : Nat) (buf : Bytes) (bs : List Box)
    (h : parseBoxes sc fuel buf = some bs) :
    infoBoxes buf = (topLayout bs 0).map fun t => ⟨t.1, t.2.2, t.2.1, false⟩ := by
  unfold infoBoxes
  apply infoWalk_parse sc _ fuel buf 0 bs (by simpa using h) (Nat.zero_le _)
  have h1 := parseBoxes_sizes sc fuel buf bs h
  have h2 := length_le_sizes bs
  omega

/-- offsets that tile from `o`: each entry starts where the previous one ends -/
def runningOffsets : List Nat → Nat → List Nat
  | [], _ => []
  | s :: ss, o => o :: runningOffsets ss (o + s)

theorem infoWalk_tiles (fuel : Nat) (buf : Bytes) (off : Nat) :
    let es := (infoWalk fuel buf off).filter (fun e => !e.invalid)
    es.map (·.offset) = runningOffsets (es.map (·.size)) off ∧
    (off ≤ buf.length → off + (es.map (·.size)).sum ≤ buf.length) := by
  fun_induction infoWalk fuel buf off with
  | case1 | case2 | case3 | case4 | case5 => simp [runningOffsets]
  | case6 fuel buf off hlen size rest hr typ hz hfit ih =>
    simp only [] at ih
    simp [runningOffsets, ih.1]
    have := ih.2 (by omega)
    omega

end Muxide
