import Muxide.Lemmas.Framing
/- Muxide.Lemmas.AnnexB — the structural start-code scanner and NAL iterator of the model against
   the least-index specification of Muxide.Spec.Framing (`firstSC_eq_findSC`, `nals_eq_splitAnnexB`), and the
   iterator on units joined by start codes (`nals_eq`, `nals_join`): a start code that straddles a join runs over
   zero bytes (`zeros_of_headLen_append`). -/
namespace Muxide
open Muxide.Spec

/-- length of the start code at the head of a byte string (4-byte form preferred), 0 if none -/
def headLen : Bytes → Nat
  | 0 :: 0 :: 0 :: 1 :: _ => 4
  | 0 :: 0 :: 1 :: _ => 3
  | _ => 0

theorem headLen_cons4 (a b c f : UInt8) (r : Bytes) :
    headLen (a :: b :: c :: f :: r) =
      if a = 0 ∧ b = 0 ∧ c = 0 ∧ f = 1 then 4 else if a = 0 ∧ b = 0 ∧ c = 1 then 3 else 0 := by
  unfold headLen
  split
  · simp_all
  · simp_all
  · next h1 h2 =>
    have h1' := h1 r
    have h2' := h2 (f :: r)
    rw [if_neg (by grind), if_neg (by grind)]

theorem headLen_cons3 (a b c : UInt8) :
    headLen [a, b, c] = if a = 0 ∧ b = 0 ∧ c = 1 then 3 else 0 := by
  unfold headLen
  split
  · simp_all
  · simp_all
  · next h1 h2 =>
    have h2' := h2 []
    simp at h2'
    rw [if_neg (by grind)]

theorem headLen_short (e : Bytes) (h : e.length < 3) : headLen e = 0 := by
  match e, h with
  | [], _ => simp [headLen]
  | [_], _ => simp [headLen]
  | [_, _], _ => simp [headLen]

theorem headLen_four (t : Bytes) : headLen (0 :: 0 :: 0 :: 1 :: t) = 4 := by simp [headLen]
theorem headLen_three (t : Bytes) : headLen (0 :: 0 :: 1 :: t) = 3 := by
  unfold headLen; split <;> simp_all

theorem headLen_cases (e : Bytes) : headLen e = 0 ∨ headLen e = 3 ∨ headLen e = 4 := by
  unfold headLen; split <;> simp

theorem scLenAt_eq_headLen (d : Bytes) (i : Nat) : scLenAt d i = headLen (d.drop i) := by
  have e : scLenAt d i = scLenAt (d.drop i) 0 := by simp [scLenAt]
  rw [e]
  generalize d.drop i = e
  match e with
  | [] | [_] | [_, _] => simp [scLenAt, headLen]
  | [a, b, c] => rw [headLen_cons3]; simp [scLenAt]
  | a :: b :: c :: f :: r => rw [headLen_cons4]; simp [scLenAt]

theorem findSC_cons (b : UInt8) (rest : Bytes) :
    findSC (b :: rest) =
      if headLen (b :: rest) ≠ 0 then some (0, headLen (b :: rest))
      else (findSC rest).map fun (p, l) => (p + 1, l) := by
  -- the scanner and `headLen` match on the same two patterns
  conv => lhs; unfold findSC
  split
  · rw [headLen_four]; rfl
  · rw [headLen_three]; rfl
  · next h4 h3 =>
    have h0 : headLen (b :: rest) = 0 := by
      unfold headLen
      split
      · next heq => cases heq; exact (h4 _ rfl rfl).elim
      · next heq => cases heq; exact (h3 _ rfl rfl).elim
      · rfl
    rw [h0]; rfl

theorem scLenAt_short (d : Bytes) (j : Nat) (h : d.length < j + 3) : scLenAt d j = 0 := by
  rw [scLenAt_eq_headLen]; exact headLen_short _ (by simp; omega)

theorem scLenAt_cases (d : Bytes) (i : Nat) : scLenAt d i = 0 ∨ scLenAt d i = 3 ∨ scLenAt d i = 4 := by
  rw [scLenAt_eq_headLen]; exact headLen_cases _

theorem scLenAt_eq_four_iff (d : Bytes) (i : Nat) :
    scLenAt d i = 4 ↔ d[i]? = some 0 ∧ d[i+1]? = some 0 ∧ d[i+2]? = some 0 ∧ d[i+3]? = some 1 := by
  unfold scLenAt
  split
  · simp [*]
  · split <;> simp [*]

theorem scLenAt_eq_three_iff (d : Bytes) (i : Nat) :
    scLenAt d i = 3 ↔ d[i]? = some 0 ∧ d[i+1]? = some 0 ∧ d[i+2]? = some 1 := by
  unfold scLenAt
  split
  · next h => simp [h.2.2.1]
  · split <;> simp [*]

theorem firstSC_step {d : Bytes} {i : Nat} (h : i < d.length) :
    firstSC d i = if scLenAt d i ≠ 0 then some (i, scLenAt d i) else firstSC d (i + 1) := by
  unfold firstSC
  rw [show d.length - i = (d.length - (i + 1)) + 1 by omega, List.range_succ_eq_map, List.map_cons, List.map_map,
    List.findSome?_cons, Nat.zero_add]
  have e : ((· + i) ∘ Nat.succ) = (· + (i + 1)) := funext fun x => by simp only [Function.comp]; omega
  rw [e]
  by_cases c : scLenAt d i ≠ 0
  · rw [if_pos c, if_pos c]
  · rw [if_neg c, if_neg c]

theorem firstSC_short {d : Bytes} {i : Nat} (h : d.length < i + 3) : firstSC d i = none := by
  unfold firstSC
  rw [List.findSome?_eq_none_iff]
  intro j hj
  obtain ⟨a, _, rfl⟩ := List.mem_map.mp hj
  rw [scLenAt_short d _ (by omega)]; rfl

theorem firstSC_eq_findSC (d : Bytes) (k : Nat) :
    firstSC d k = (findSC (d.drop k)).map fun (p, l) => (p + k, l) := by
  generalize hn : d.length - k = n
  induction n generalizing k with
  | zero => rw [firstSC_short (by omega), List.drop_eq_nil_of_le (by omega)]; rfl
  | succ n ih =>
    have hk : k < d.length := by omega
    rw [firstSC_step hk, ih (k + 1) (by omega), List.drop_eq_getElem_cons hk, findSC_cons, ← List.drop_eq_getElem_cons hk,
      ← scLenAt_eq_headLen]
    split
    · simp
    · rw [Option.map_map]; congr 1; funext ⟨p, l⟩; simp only [Function.comp]; congr 1; omega

theorem findSC_eq_none_iff (e : Bytes) : findSC e = none ↔ ∀ j, headLen (e.drop j) = 0 := by
  induction e with
  | nil => simp [findSC, headLen]
  | cons b rest ih =>
    rw [findSC_cons]
    by_cases h0 : headLen (b :: rest) = 0
    · rw [if_neg (fun h => h h0), Option.map_eq_none_iff, ih]
      exact ⟨fun h j => by cases j with | zero => exact h0 | succ j => exact h j, fun h j => h (j + 1)⟩
    · rw [if_pos h0]; exact ⟨nofun, fun h => absurd (h 0) h0⟩

theorem findSC_eq_some_iff (e : Bytes) (p l : Nat) :
    findSC e = some (p, l) ↔
      headLen (e.drop p) = l ∧ l ≠ 0 ∧ ∀ j, j < p → headLen (e.drop j) = 0 := by
  induction e generalizing p with
  | nil => simp [findSC, headLen]; omega
  | cons b rest ih =>
    rw [findSC_cons]
    by_cases h0 : headLen (b :: rest) = 0
    · -- no start code here: the answer is the tail's, one further on
      rw [if_neg (fun h => h h0)]
      cases p with
      | zero => exact ⟨fun h => by simp at h, fun ⟨a1, a2, _⟩ => absurd (a1.symm.trans h0) a2⟩
      | succ p =>
        have e : (findSC rest).map (fun (p, l) => (p + 1, l)) = some (p + 1, l) ↔ findSC rest = some (p, l) := by
          cases findSC rest with
          | none => simp
          | some q => simp [Prod.ext_iff]
        simp only [e, ih p, Nat.forall_lt_succ_left, List.drop_succ_cons, List.drop_zero, h0, true_and]
    · rw [if_pos h0, Option.some.injEq, Prod.mk.injEq]
      constructor
      · rintro ⟨rfl, rfl⟩; exact ⟨rfl, h0, fun j hj => absurd hj (Nat.not_lt_zero _)⟩
      · rintro ⟨a1, _, a3⟩
        cases p with
        | zero => exact ⟨rfl, a1⟩
        | succ p => exact absurd (a3 0 (Nat.zero_lt_succ _)) h0

theorem headLen_le_length (e : Bytes) : headLen e ≤ e.length := by
  unfold headLen; split <;> simp

theorem findSC_bound {e : Bytes} {p l : Nat} (h : findSC e = some (p, l)) :
    p + l ≤ e.length ∧ (l = 3 ∨ l = 4) := by
  obtain ⟨rfl, a2, _⟩ := (findSC_eq_some_iff e p l).mp h
  have hc := headLen_cases (e.drop p)
  have hl := headLen_le_length (e.drop p)
  rw [List.length_drop] at hl
  omega

theorem firstSC_bounds {d : Bytes} {k p l : Nat} (h : firstSC d k = some (p, l)) :
    k ≤ p ∧ p + l ≤ d.length ∧ (l = 3 ∨ l = 4) := by
  rw [firstSC_eq_findSC] at h
  obtain ⟨⟨p', l'⟩, hf, he⟩ := Option.map_eq_some_iff.mp h
  obtain ⟨rfl, rfl⟩ := Prod.mk.inj he
  have hb := findSC_bound hf
  rw [List.length_drop] at hb
  omega

theorem nalsAux_nil (fuel : Nat) : nalsAux fuel [] = [] := by
  cases fuel <;> simp [nalsAux, findSC]

/-- where the unit that starts at `start` ends: at the next start code, or at the end of the input
    (the `stop` of the specification's `splitFrom`) -/
def unitEnd (d : Bytes) (start : Nat) : Nat := match firstSC d start with | some (q, _) => q | none => d.length

theorem unitEnd_bounds {d : Bytes} {start : Nat} (h : start ≤ d.length) :
    start ≤ unitEnd d start ∧ unitEnd d start ≤ d.length := by
  unfold unitEnd
  cases h2 : firstSC d start with
  | none => exact ⟨h, Nat.le_refl _⟩
  | some ql => obtain ⟨q, l⟩ := ql; have := firstSC_bounds h2; exact ⟨this.1, show q ≤ d.length by omega⟩

theorem takeNal_drop (d : Bytes) (s : Nat) :
    takeNal (d.drop s) = ((d.drop s).take (unitEnd d s - s), d.drop (unitEnd d s)) := by
  unfold takeNal unitEnd
  rw [firstSC_eq_findSC]
  cases findSC (d.drop s) with
  | none => simp only [Option.map_none, ← List.length_drop, List.take_length, List.drop_length]
  | some ql => simp only [Option.map_some, Nat.add_sub_cancel, List.drop_drop, Nat.add_comm s]

theorem nalsAux_eq_splitFrom (d : Bytes) (fuel k : Nat) :
    nalsAux fuel (d.drop k) = splitFrom d fuel k := by
  induction fuel generalizing k with
  | zero => rfl
  | succ fuel ih =>
    rw [nalsAux, splitFrom, firstSC_eq_findSC d k]
    cases findSC (d.drop k) with
    | none => rfl
    | some pl =>
      obtain ⟨p, l⟩ := pl
      simp only [Option.map_some, List.drop_drop]
      rw [show k + (p + l) = p + k + l by omega, takeNal_drop, ih]
      rfl

theorem nals_eq_splitAnnexB (d : Bytes) : nals d = splitAnnexB d := nalsAux_eq_splitFrom d (d.length + 1) 0

theorem splitFrom_infix (d : Bytes) (fuel k : Nat) : ∀ u ∈ splitFrom d fuel k, u <:+: d := by
  induction fuel generalizing k with
  | zero => simp [splitFrom]
  | succ fuel ih =>
    intro u hu
    rw [splitFrom] at hu
    split at hu
    · simp at hu
    · simp only [List.mem_cons] at hu
      rcases hu with rfl | hu
      · exact List.IsInfix.trans (List.take_prefix _ _).isInfix (List.drop_suffix _ _).isInfix
      · exact ih _ u hu

/-- the two start-code forms -/
def IsSC (c : Bytes) : Prop := c = [0, 0, 1] ∨ c = [0, 0, 0, 1]

theorem IsSC.headLen {c : Bytes} (hc : IsSC c) (x : Bytes) : headLen (c ++ x) = c.length := by
  rcases hc with rfl | rfl
  · exact headLen_three x
  · exact headLen_four x

theorem IsSC.findSC {c : Bytes} (hc : IsSC c) (x : Bytes) : findSC (c ++ x) = some (0, c.length) := by
  rcases hc with rfl | rfl
  · exact findSC.eq_3 x
  · exact findSC.eq_2 x

theorem IsSC.length {c : Bytes} (hc : IsSC c) : c.length = 3 ∨ c.length = 4 := by
  rcases hc with rfl | rfl <;> simp

theorem headLen_ne_zero {e : Bytes} (h : headLen e ≠ 0) : ∃ c x, IsSC c ∧ e = c ++ x := by
  unfold headLen at h
  split at h
  · exact ⟨[0, 0, 0, 1], _, .inr rfl, rfl⟩
  · exact ⟨[0, 0, 1], _, .inl rfl, rfl⟩
  · exact absurd rfl h

/-- a start code that begins inside `m` but is not contained in it runs over zero bytes of `m` only
    (its one non-zero byte is its last) -/
theorem zeros_of_headLen_append {m x : Bytes} (h : headLen m = 0) (hx : headLen (m ++ x) ≠ 0) :
    ∀ b ∈ m, b = 0 := by
  -- `m ++ x = c ++ y` for a start code `c`, byte by byte
  obtain ⟨c, y, hc, e⟩ := headLen_ne_zero hx
  match m with
  | [] => nofun
  | [a] | [a, b] => rcases hc with rfl | rfl <;> cases e <;> simp
  | [a, b, c] =>
    rcases hc with rfl | rfl <;> cases e
    · exact absurd h (by decide)
    · simp
  | a :: b :: c :: f :: r =>
    rcases hc with rfl | rfl <;> cases e
    · exact absurd h (by rw [headLen_three]; decide)
    · exact absurd h (by rw [headLen_four]; decide)

theorem headLen_zeros {e : Bytes} (h : ∀ b ∈ e, b = 0) : headLen e = 0 := by
  unfold headLen
  split <;> simp_all

theorem findSC_append_zeros (e : Bytes) (t : Nat) (h : findSC e = none) :
    findSC (e ++ List.replicate t 0) = none := by
  rw [findSC_eq_none_iff] at h ⊢
  intro j
  rw [List.drop_append, List.drop_replicate]
  -- a start code here would run from `e` on into the zeros: it would have no non-zero byte
  refine Decidable.by_contra fun hx => hx (headLen_zeros fun b hb => ?_)
  rcases List.mem_append.mp hb with hb | hb
  · exact zeros_of_headLen_append (h j) hx b hb
  · exact (List.mem_replicate.mp hb).2

theorem findSC_unit_append (n e : Bytes) (hl : n.getLast? ≠ some 0) (hn : findSC n = none)
    (he : headLen e ≠ 0) : findSC (n ++ e) = some (n.length, headLen e) := by
  rw [findSC_eq_some_iff]
  rw [findSC_eq_none_iff] at hn
  refine ⟨by simp, he, fun j hj => ?_⟩
  rw [List.drop_append_of_le_length (by omega)]
  -- a start code before `e` would run over the last byte of `n`, which would then be zero
  refine Decidable.by_contra fun hx => hl ?_
  have hne : n.drop j ≠ [] := by simp; omega
  have hg : (n.drop j).getLast? = n.getLast? := by rw [List.getLast?_drop, if_neg (by omega)]
  rw [← hg, List.getLast?_eq_some_getLast hne, zeros_of_headLen_append (hn j) hx _ (List.getLast_mem hne)]

theorem takeNal_append (b : Bytes) : (takeNal b).1 ++ (takeNal b).2 = b := by
  unfold takeNal
  split
  · exact List.take_append_drop _ _
  · exact List.append_nil _

theorem nalsAux_step_length {e : Bytes} {p l : Nat} (h : findSC e = some (p, l)) :
    (takeNal (e.drop (p + l))).1.length + (takeNal (e.drop (p + l))).2.length + 3 ≤ e.length := by
  have := findSC_bound h
  rw [← List.length_append, takeNal_append, List.length_drop]; omega

theorem nalsAux_progress (fuel : Nat) (e : Bytes) :
    ((nalsAux fuel e).map (·.length)).sum + 3 * (nalsAux fuel e).length ≤ e.length := by
  induction fuel generalizing e with
  | zero => simp [nalsAux]
  | succ fuel ih =>
    rw [nalsAux]
    cases h : findSC e with
    | none => simp
    | some pl =>
      have := nalsAux_step_length h
      have := ih (takeNal (e.drop (pl.1 + pl.2))).2
      simp only [List.map_cons, List.sum_cons, List.length_cons]
      omega

theorem nalsAux_fuel (e : Bytes) (f1 f2 : Nat) (h1 : e.length < f1) (h2 : e.length < f2) :
    nalsAux f1 e = nalsAux f2 e := by
  induction f1 generalizing e f2 with
  | zero => omega
  | succ g1 ih =>
    obtain ⟨g2, rfl⟩ : ∃ g2, f2 = g2 + 1 := ⟨f2 - 1, by omega⟩
    rw [nalsAux, nalsAux]
    cases h : findSC e with
    | none => rfl
    | some pl =>
      have := nalsAux_step_length h
      simp only
      rw [ih _ g2 (by omega) (by omega)]

theorem nals_eq_nalsAux (e : Bytes) (f : Nat) (h : e.length < f) : nals e = nalsAux f e :=
  nalsAux_fuel e _ f (Nat.lt_succ_self _) h

/-- the iterator by its recursion equation: the fuel of `nals` never runs out -/
theorem nals_eq (e : Bytes) :
    nals e = match findSC e with
      | none => []
      | some (p, l) => (takeNal (e.drop (p + l))).1 :: nals (takeNal (e.drop (p + l))).2 := by
  rw [nals, nalsAux]
  cases h : findSC e with
  | none => rfl
  | some pl =>
    have := nalsAux_step_length h
    simp only
    rw [nals_eq_nalsAux _ e.length (by omega)]

theorem nals_step (c n r : Bytes) (hc : IsSC c) (hl : n.getLast? ≠ some 0)
    (hn : findSC n = none) (hr : r = [] ∨ headLen r ≠ 0) :
    nals (c ++ (n ++ r)) = n :: nals r := by
  rw [nals_eq, hc.findSC]
  simp only [Nat.zero_add, List.drop_left]
  rcases hr with rfl | hr
  · simp [takeNal, hn]
  · simp [takeNal, findSC_unit_append n r hl hn hr]

theorem nals_last (c m : Bytes) (hc : IsSC c) (hm : findSC m = none) : nals (c ++ m) = [m] := by
  rw [nals_eq, hc.findSC]
  simp [takeNal, hm, nals, nalsAux_nil]

/-- start codes and units, concatenated -/
def joinSC (ps : List (Bytes × Bytes)) : Bytes := ps.flatMap fun (c, n) => c ++ n

theorem joinSC_cons (c n : Bytes) (ps : List (Bytes × Bytes)) :
    joinSC ((c, n) :: ps) = c ++ (n ++ joinSC ps) := by
  simp [joinSC]

theorem joinSC_head (ps : List (Bytes × Bytes)) (t : Bytes)
    (hps : ∀ q ∈ ps, IsSC q.1) (ht : t = [] ∨ headLen t ≠ 0) :
    joinSC ps ++ t = [] ∨ headLen (joinSC ps ++ t) ≠ 0 := by
  cases ps with
  | nil => simpa [joinSC] using ht
  | cons q ps =>
    right
    obtain ⟨c, n⟩ := q
    have hc : IsSC c := hps (c, n) (by simp)
    rw [joinSC_cons, List.append_assoc, hc.headLen]
    have := hc.length; omega

theorem nals_join (ps : List (Bytes × Bytes)) (t : Bytes)
    (hps : ∀ q ∈ ps, IsSC q.1 ∧ q.2.getLast? ≠ some 0 ∧ findSC q.2 = none) (ht : t = [] ∨ headLen t ≠ 0) :
    nals (joinSC ps ++ t) = ps.map (·.2) ++ nals t := by
  induction ps with
  | nil => simp [joinSC]
  | cons q ps ih =>
    obtain ⟨c, n⟩ := q
    obtain ⟨hc, hl, hn⟩ := hps (c, n) (by simp)
    have hps' := fun q hq => hps q (List.mem_cons_of_mem _ hq)
    rw [joinSC_cons, List.append_assoc, List.append_assoc,
      nals_step c n _ hc hl hn (joinSC_head ps t (fun q hq => (hps' q hq).1) ht), ih hps']
    rfl

/-- two or more zero bytes and a one: the start code found ends with the one -/
theorem findSC_zeros_one (k : Nat) (x : Bytes) :
    ∃ p l, findSC (List.replicate (k + 2) 0 ++ 1 :: x) = some (p, l) ∧ p + l = k + 3 := by
  match k with
  | 0 => exact ⟨0, 3, findSC.eq_3 _, rfl⟩
  | 1 => exact ⟨0, 4, findSC.eq_2 _, rfl⟩
  | k + 2 =>
    obtain ⟨p, l, hf, hpl⟩ := findSC_zeros_one (k + 1) x
    -- four zeros at the head: no start code there, the search moves on by one
    have h0 : headLen (0 :: (List.replicate (k + 1 + 2) 0 ++ 1 :: x)) = 0 := by
      simp [List.replicate_succ, headLen_cons4]
    exact ⟨p + 1, l, by rw [List.replicate_succ, List.cons_append, findSC_cons, if_neg (fun h => h h0), hf]; rfl,
      by omega⟩

/-- zero bytes before a start code only move (and possibly lengthen) it: it still ends at the
    same place -/
theorem findSC_zeros_sc (z : Nat) (c x : Bytes) (hc : IsSC c) :
    ∃ p l, findSC (List.replicate z 0 ++ (c ++ x)) = some (p, l) ∧ p + l = z + c.length := by
  rcases hc with rfl | rfl
  · have := findSC_zeros_one z x
    rwa [← List.replicate_append_replicate, List.append_assoc] at this
  · have := findSC_zeros_one (z + 1) x
    rwa [Nat.add_assoc z, ← List.replicate_append_replicate, List.append_assoc] at this

theorem nals_leading_zeros (z : Nat) (e : Bytes) (he : e = [] ∨ headLen e ≠ 0) :
    nals (List.replicate z 0 ++ e) = nals e := by
  rcases he with rfl | he
  · rw [nals_eq, List.append_nil, ← List.nil_append (List.replicate z 0), findSC_append_zeros [] z rfl]; rfl
  · obtain ⟨c, x, hc, rfl⟩ := headLen_ne_zero he
    obtain ⟨p, l, hf, hpl⟩ := findSC_zeros_sc z c x hc
    -- both iterations go on behind the same start code
    rw [nals_eq, nals_eq (c ++ x), hf, hc.findSC]
    simp only [hpl, Nat.zero_add, ← List.drop_drop, List.drop_left, List.drop_left' List.length_replicate]

theorem noSC_iff (n : Bytes) : (∀ i, scLenAt n i = 0) ↔ findSC n = none := by
  rw [findSC_eq_none_iff]
  simp only [scLenAt_eq_headLen]

end Muxide
