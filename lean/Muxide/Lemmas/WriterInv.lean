import Muxide.Lemmas.Timing
/- Muxide.Lemmas.WriterInv — the writer states the API can produce (`Writer.Reachable`) and what
   holds in all of them.  Such a fact is shown by `Reachable.push_induction`: for the fresh
   writer, and across one accepted sample.  The timing invariants of Lemmas/Timing hold; from them,
   the sample queues are ordered: video decode timestamps strictly increase, audio timestamps never
   decrease (and dts = pts).  A writer without audio track holds no audio samples (`AudioInv`): that
   one is kept by each operation on any writer, reachable or not, which is the form C02 states. -/
namespace Muxide

/-- invariant of the sample queues (newest first) -/
structure Writer.Inv (w : Writer) : Prop where
  vSorted : (w.vsRev.map (·.dts)).Pairwise (fun a b => b < a)
  vPrev : w.vPrev = (w.vsRev.map (·.dts)).head?
  aSorted : (w.asRev.map (·.dts)).Pairwise (fun a b => b ≤ a)
  aPrev : w.aPrev = (w.asRev.map (·.dts)).head?
  aDts : w.asRev.map (·.pts) = w.asRev.map (·.dts)
  noAudio : w.audio = none → w.asRev = []

/-- the writer states that the API can produce: a fresh writer, then any sequence of calls -/
inductive Writer.Reachable : Writer → Prop
  | init (c : VCodec) (a : Option AudioTrack) : Writer.Reachable { codec := c, audio := a }
  | video {w} (pts dts : Nat) (data : Bytes) (key : Bool) :
      Writer.Reachable w → Writer.Reachable (w.writeVideo pts dts data key).1
  | audio {w} (pts : Nat) (data : Bytes) : Writer.Reachable w → Writer.Reachable (w.writeAudio pts data).1
  | fin {w} (width height : Nat) (md : Option Metadata) (fast : Bool) :
      Writer.Reachable w → Writer.Reachable (w.finalize width height md fast).1

/-- What holds of the fresh writer, is kept when a sample is accepted (after the checks of the
    call) and does not depend on `finalized`, holds in every reachable state: refused calls change
    nothing, and `finalize` sets `finalized` only. -/
theorem Writer.Reachable.push_induction {P : Writer → Prop} {w : Writer} (h : w.Reachable)
    (init : ∀ c a, P { codec := c, audio := a })
    (video : ∀ w pts dts d k, w.Reachable → P w → w.videoErr pts dts d k = none →
      P (w.videoPush pts dts d k))
    (audio : ∀ w pts d, w.Reachable → P w → w.audioErr pts d = none →
      P (w.audioPush pts (storedAudio w d)))
    (fin : ∀ w, P w → P { w with finalized := true }) : P w := by
  induction h with
  | init c a => exact init c a
  | @video w pts dts d k hr ih =>
    rcases w.writeVideo_cases pts dts d k with ⟨e, -, h'⟩ | ⟨he, h'⟩ <;> rw [h']
    · exact ih
    · exact video w pts dts d k hr ih he
  | @audio w pts d hr ih =>
    rcases w.writeAudio_cases pts d with ⟨e, -, h'⟩ | ⟨he, h'⟩ <;> rw [h']
    · exact ih
    · exact audio w pts d hr ih he
  | @fin w width height md fast _ ih => rw [finalize_fst]; exact fin w ih

theorem Writer.Reachable.timing {w : Writer} (h : w.Reachable) : VInv w ∧ AInv w :=
  h.push_induction (P := fun w => VInv w ∧ AInv w) (fun _ _ => ⟨TrackInv_nil true, TrackInv_nil false, by simp⟩)
    (fun _ _ _ _ _ _ ih he => ⟨ih.1.videoPush he, ih.2.videoPush⟩)
    (fun _ _ _ _ ih he => ⟨ih.1.audioPush, ih.2.audioPush he⟩)
    (fun _ ih => ih)

/-- a writer without an audio track holds no audio samples -/
def AudioInv (w : Writer) : Prop := w.audio = none → w.asRev = []

theorem audioInv_writeVideo (w : Writer) (pts dts : Nat) (d : Bytes) (k : Bool) (h : AudioInv w) :
    AudioInv (w.writeVideo pts dts d k).1 := by
  obtain ⟨_, _, _, _, e⟩ := w.writeVideo_frame pts dts d k
  rw [e]; exact h

theorem audioInv_writeAudio (w : Writer) (pts : Nat) (d : Bytes) (h : AudioInv w) :
    AudioInv (w.writeAudio pts d).1 := by
  rcases w.writeAudio_cases pts d with ⟨_, -, e⟩ | ⟨he, e⟩ <;> rw [e]
  · exact h
  · obtain ⟨-, ⟨tr, hau, -⟩, -⟩ := Writer.audioErr_none he
    rw [w.audioPush_eq]
    intro hn
    exact absurd (hau.symm.trans hn) (by simp)

theorem audioInv_finalize (w : Writer) (a b : Nat) (md : Option Metadata) (f : Bool) (h : AudioInv w) :
    AudioInv (w.finalize a b md f).1 := by
  rw [finalize_fst]; exact h

theorem audioInv_new (c : VCodec) (a : Option AudioTrack) : AudioInv { codec := c, audio := a } := by
  intro _; rfl

theorem Writer.Reachable.noAudio {w : Writer} (h : w.Reachable) : AudioInv w := by
  induction h with
  | init c a => exact audioInv_new c a
  | video pts dts d k _ ih => exact audioInv_writeVideo _ pts dts d k ih
  | audio pts d _ ih => exact audioInv_writeAudio _ pts d ih
  | fin W H md fast _ ih => exact audioInv_finalize _ W H md fast ih

theorem Writer.Reachable.inv {w : Writer} (h : w.Reachable) : w.Inv :=
  have ⟨hv, ha⟩ := h.timing
  { vSorted := List.pairwise_map.mpr ((Linked_pairwise hv.linked).imp fun h => h.2 rfl)
    vPrev := by rw [hv.prev_eq, List.head?_map]
    aSorted := List.pairwise_map.mpr ((Linked_pairwise ha.1.linked).imp And.left)
    aPrev := by rw [ha.1.prev_eq, List.head?_map]
    aDts := List.map_congr_left ha.2
    noAudio := h.noAudio }

/-- the invariant in the form used by C01 / C08 / C15 (oldest first) -/
theorem Writer.Inv.ordered {w : Writer} (h : w.Inv) :
    w.vsRev.reverse.Pairwise (fun a b => a.dts < b.dts) ∧
    w.asRev.reverse.Pairwise (fun a b => a.dts ≤ b.dts) ∧
    (∀ s ∈ w.asRev.reverse, s.pts = s.dts) ∧
    (w.audio = none → w.asRev = []) := by
  refine ⟨?_, ?_, fun s hs => List.map_inj_left.mp h.aDts s (List.mem_reverse.mp hs), h.noAudio⟩
  · rw [List.pairwise_reverse]
    exact List.pairwise_map.mp h.vSorted
  · rw [List.pairwise_reverse]
    exact List.pairwise_map.mp h.aSorted

end Muxide
