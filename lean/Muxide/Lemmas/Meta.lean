import Muxide.Model.Mp4
import Muxide.Spec.Expect
import Muxide.Lemmas.Bytes
/-
  Muxide.Lemmas.Meta — time of day, zero-padded decimal fields, the packed language code,
  and the shape of the user-data box.
-/
namespace Muxide
open Muxide.Spec Box

theorem mod86400_mod3600 (s : Nat) : s % 86400 % 3600 = s % 3600 := Nat.mod_mod_of_dvd s (by decide)
theorem mod3600_mod60 (s : Nat) : s % 3600 % 60 = s % 60 := Nat.mod_mod_of_dvd s (by decide)
theorem split3600 (r : Nat) : r = r / 3600 * 3600 + r % 3600 := (Nat.div_add_mod' r 3600).symm
theorem split60 (r : Nat) : r = r / 60 * 60 + r % 60 := (Nat.div_add_mod' r 60).symm

theorem padNum_length (w n : Nat) (hw : 0 < w) (h : n < 10 ^ w) : (padNum w n).length = w := by
  have : (Nat.toDigits 10 n).length ≤ w := (Nat.length_toDigits_le_iff (by omega) hw).2 h
  simp [padNum, decDigits]; omega

/-- value of a string of ASCII decimal digits -/
def decValue (b : Bytes) : Nat := b.foldl (fun acc c => 10 * acc + (c.toNat - 48)) 0

theorem u8_digit (c : Char) (h : c.isDigit = true) : (u8 c.toNat).toNat = c.toNat ∧ 48 ≤ c.toNat ∧ c.toNat ≤ 57 := by
  simp only [Char.isDigit, Bool.and_eq_true, decide_eq_true_eq, ge_iff_le, UInt32.le_iff_toNat_le] at h
  have h1 : 48 ≤ c.toNat := h.1
  have h2 : c.toNat ≤ 57 := h.2
  exact ⟨by simp [u8, UInt8.toNat_ofNat']; omega, h1, h2⟩

theorem foldl_map_digits (l : List Char) (hl : ∀ c ∈ l, c.isDigit = true) (init : Nat) :
    (l.map fun c => u8 c.toNat).foldl (fun acc c => 10 * acc + (c.toNat - 48)) init = Nat.ofDigitChars 10 l init := by
  induction l generalizing init with
  | nil => simp
  | cons c cs ih =>
    have hc := u8_digit c (hl c (by simp))
    simp only [List.map_cons, List.foldl_cons, Nat.ofDigitChars_cons]
    rw [ih (fun x hx => hl x (by simp [hx])), hc.1]
    rfl

theorem padNum_eq (w n : Nat) :
    padNum w n = (List.replicate (w - (Nat.toDigits 10 n).length) '0' ++ Nat.toDigits 10 n).map fun c => u8 c.toNat := by
  simp [padNum, decDigits, u8]

theorem padNum_value (w n : Nat) : decValue (padNum w n) = n ∧ ∀ b ∈ padNum w n, 48 ≤ b.toNat ∧ b.toNat ≤ 57 := by
  have hd : ∀ c ∈ List.replicate (w - (Nat.toDigits 10 n).length) '0' ++ Nat.toDigits 10 n, c.isDigit = true := by
    intro c hc
    rw [List.mem_append] at hc
    rcases hc with hc | hc
    · rw [List.mem_replicate] at hc; rw [hc.2]; rfl
    · exact Nat.isDigit_of_mem_toDigits (by omega) (by omega) hc
  rw [padNum_eq]
  constructor
  · unfold decValue
    rw [foldl_map_digits _ hd, Nat.ofDigitChars_append]
    simp
  · intro b hb
    rw [List.mem_map] at hb
    obtain ⟨c, hc, rfl⟩ := hb
    have := u8_digit c (hd c hc)
    omega

theorem langCode3 (a b c : Nat) :
    langCode [a, b, c] = (a % 2^16 - 0x60) % 32 * 2^10 + (b % 2^16 - 0x60) % 32 * 2^5 + (c % 2^16 - 0x60) % 32 := rfl

theorem langCode_lt (cps : List Nat) : langCode cps < 2^15 := by
  simp only [langCode]
  omega

theorem field32 (w z : Nat) (hz : z < 32) : (w * 32 + z) / 32 = w ∧ (w * 32 + z) % 32 = z := by omega

theorem unpack_pack (x y z : Nat) (hx : x < 32) (hy : y < 32) (hz : z < 32) :
    unpackLang (x * 2^10 + y * 2^5 + z) = [x + 0x60, y + 0x60, z + 0x60] := by
  have e : x * 2^10 + y * 2^5 + z = (x * 32 + y) * 32 + z := by omega
  obtain ⟨z1, z2⟩ := field32 (x * 32 + y) z hz
  obtain ⟨y1, y2⟩ := field32 x y hy
  simp only [unpackLang, e, show 1024 = 32 * 32 from rfl, ← Nat.div_div_eq_div_mul, z1, z2, y1, y2,
    Nat.mod_eq_of_lt hx]

/-- what a reader unpacks from the code of ANY three scalar values: each reduced to five bits -/
theorem unpack_langCode3 (a b c : Nat) :
    unpackLang (langCode [a, b, c]) =
      [(a % 2^16 - 0x60) % 32 + 0x60, (b % 2^16 - 0x60) % 32 + 0x60, (c % 2^16 - 0x60) % 32 + 0x60] := by
  rw [langCode3]
  exact unpack_pack _ _ _ (Nat.mod_lt _ (by decide)) (Nat.mod_lt _ (by decide)) (Nat.mod_lt _ (by decide))

/-- … which loses nothing of a lower-case letter -/
theorem lower_field (a : Nat) (h1 : 97 ≤ a) (h2 : a ≤ 122) : (a % 2^16 - 0x60) % 32 + 0x60 = a := by
  rw [Nat.mod_eq_of_lt (by omega : a < 2^16), Nat.mod_eq_of_lt (by omega), Nat.sub_add_cancel (by omega)]

/-- after the five 32-bit fields of the media header come the packed code and a zero, 16 bits each -/
theorem mdhd_drop20 (ts dur : Nat) (lang : Option (List Nat)) :
    (bMdhd ts dur lang).pre.drop 20 = u16be (langCode (lang.getD [117, 110, 100])) ++ u16be 0 := rfl

end Muxide
