import Muxide.Lemmas.Records
import Muxide.Lemmas.Layout
/-
  Muxide.Lemmas.E2E — the reader on the builders' trees, for the end-to-end read-back theorems
  (Lemmas/E2E2.lean, Props/C01E2E.lean, C03E2E, C18E2E, C19E2E):
  * the complete `Spec.Track` / `Spec.Movie` records that the independent reader's `decodeTrack` /
    `parseMovie` return on the box trees that the builders `bVideoTrak`, `bAudioTrak`, `bMoov`
    produce (`videoTrackOf`, `audioTrackOf`, `parseMovie_of_full`); the navigation is one lemma for
    the tree every track has, the table decoders are taken as hypotheses and discharged by C16
    in Lemmas/E2E2.lean;
  * `Track.samples` in terms of the ranges and the sync flags;
  * the sync-sample table `keyframesOf` read back with `List.contains`;
  * the writer invariant "the oldest queued video frame is a key frame".
-/
namespace Muxide
open Muxide.Spec Box

/-- an optional table: absent, or present and decodable -/
def optDecode {α} (f : Bytes → Option α) : Option Box → Option (Option α)
  | none => some none
  | some b => (f b.pre).map some

/-- the sample-table part of `decodeTrack`, for a track without edit list -/
def stblPart (tkhd mdhd hdlr mh : Bytes) (sk : List Box) : Option Track := do
  let stsd ← child? "stsd" sk
  let stts ← (child? "stts" sk).bind (decodeStts ·.pre)
  let ctts ← optDecode decodeCtts (child? "ctts" sk)
  let stsc ← (child? "stsc" sk).bind (decodeStsc ·.pre)
  let sizes ← (child? "stsz" sk).bind (decodeStsz ·.pre)
  let stco ← (child? "stco" sk).bind (decodeU32Table ·.pre)
  let stss ← optDecode decodeU32Table (child? "stss" sk)
  some ⟨tkhd, mdhd, hdlr, stsd, stts, ctts, stsc, sizes, stco, stss, none, sk.map (·.typ), mh⟩

/-- navigation through `trak / mdia / minf / dinf / stbl` of the tree every track has, whatever
    its media header `mh` is (`vmhd`, `smhd`). The lookups are settled by `simp` comparing box types
    as `ascii` literals; by `rfl` the same lookups are slower to check. -/
theorem decodeTrack_trak {tkhd mdhd hdlr mh : Box} (sk : List Box)
    (h1 : tkhd.typ = ascii "tkhd") (h2 : mdhd.typ = ascii "mdhd") (h3 : hdlr.typ = ascii "hdlr")
    (hd : mh.typ ≠ ascii "dinf") (hs : mh.typ ≠ ascii "stbl") :
    decodeTrack (node "trak" [] [tkhd, node "mdia" [] [mdhd, hdlr,
      node "minf" [] [mh, bDinf, node "stbl" [] sk]]]) = stblPart tkhd.pre mdhd.pre hdlr.pre mh.typ sk := by
  unfold decodeTrack
  simp (decide := true) only [child?_cons, child?_nil, path?, bDinf, bDref, bUrl, h1, h2, h3, hd, hs, node_typ,
    node_kids, if_true, if_false, Option.bind_eq_bind, Option.bind_some, Option.bind_none,
    List.head?_cons, Option.map_none]
  -- `decodeTrack` continues inside the branches of its two optional lookups
  unfold stblPart
  cases child? "ctts" sk <;> cases child? "stss" sk <;> rfl

/-- the decoded `stsc` table: empty when there is no chunk (or no sample per chunk), else one run -/
def stscTable (spc n : Nat) : List (Nat × Nat × Nat) :=
  if n % 2^32 = 0 ∨ spc = 0 then [] else [(1, spc, 1)]

/-- child types of the video sample table, in the order written -/
def videoStblTypes (t : Tables) : List Bytes :=
  [ascii "stsd", ascii "stts"] ++ (if t.hasBframes then [ascii "ctts"] else []) ++
  [ascii "stsc", ascii "stsz", ascii "stco"] ++ (if t.keyframes ≠ [] then [ascii "stss"] else [])

/-- child types of the audio sample table -/
def audioStblTypes : List Bytes := [ascii "stsd", ascii "stts", ascii "stsc", ascii "stsz", ascii "stco"]

/-- what the reader returns for the video `trak` built from the tables `t` -/
def videoTrackOf (W H : Nat) (t : Tables) (vc : VideoConfig) (lang : Option (List Nat)) : Track :=
  { tkhd := (bTkhd 1 0 W H (toMs t.totalDuration)).pre
    mdhd := (bMdhd 90000 t.totalDuration lang).pre
    hdlr := (bHdlr "vide" "VideoHandler").pre
    stsd := bStsd (bVideoEntry W H vc)
    stts := rle t.durations
    ctts := if t.hasBframes then some (rle t.ctsOffsets) else none
    stsc := stscTable t.samplesPerChunk t.chunkOffsets.length
    sizes := t.sizes
    stco := t.chunkOffsets
    stss := if t.keyframes ≠ [] then some t.keyframes else none
    elst := none
    stblTypes := videoStblTypes t
    mediaHeaderType := ascii "vmhd" }

/-- what the reader returns for the audio `trak` built from the tables `t` -/
def audioTrackOf (a : AudioTrack) (t : Tables) (lang : Option (List Nat)) : Track :=
  { tkhd := (bTkhd 2 0x0100 0 0 (toMs t.totalDuration)).pre
    mdhd := (bMdhd 90000 t.totalDuration lang).pre
    hdlr := (bHdlr "soun" "SoundHandler").pre
    stsd := bStsd (bAudioEntry a)
    stts := rle t.durations
    ctts := none
    stsc := stscTable t.samplesPerChunk t.chunkOffsets.length
    sizes := t.sizes
    stco := t.chunkOffsets
    stss := none
    elst := none
    stblTypes := audioStblTypes
    mediaHeaderType := ascii "smhd" }

theorem stblPart_of {tk mdh hd mh : Bytes} {sk : List Box} {sd tt scb zb cb : Box} {cs ss : Option Box}
    {st : List (Nat × Nat)} {cf : Option (List (Nat × Int))} {sc : List (Nat × Nat × Nat)} {zs co : List Nat}
    {sf : Option (List Nat)}
    (c0 : child? "stsd" sk = some sd) (c1 : child? "stts" sk = some tt) (c2 : child? "ctts" sk = cs)
    (c3 : child? "stsc" sk = some scb) (c4 : child? "stsz" sk = some zb) (c5 : child? "stco" sk = some cb)
    (c6 : child? "stss" sk = ss)
    (h1 : decodeStts tt.pre = some st)
    (h2 : optDecode decodeCtts cs = some cf)
    (h3 : decodeStsc scb.pre = some sc)
    (h4 : decodeStsz zb.pre = some zs)
    (h5 : decodeU32Table cb.pre = some co)
    (h6 : optDecode decodeU32Table ss = some sf) :
    stblPart tk mdh hd mh sk = some ⟨tk, mdh, hd, sd, st, cf, sc, zs, co, sf, none, sk.map (·.typ), mh⟩ := by
  unfold stblPart
  simp only [c0, c1, c2, c3, c4, c5, c6, h1, h2, h3, h4, h5, h6, Option.bind_eq_bind, Option.bind_some]

theorem decodeTrack_video_full (W H : Nat) (t : Tables) (vc : VideoConfig) (lang : Option (List Nat))
    (h1 : decodeStts (bStts t.durations).pre = some (rle t.durations))
    (h2 : decodeCtts (bCtts t.ctsOffsets).pre = some (rle t.ctsOffsets))
    (h3 : decodeStsc (bStsc t.samplesPerChunk t.chunkOffsets.length).pre =
      some (stscTable t.samplesPerChunk t.chunkOffsets.length))
    (h4 : decodeStsz (bStsz t.sizes).pre = some t.sizes)
    (h5 : decodeU32Table (bStco t.chunkOffsets).pre = some t.chunkOffsets)
    (h6 : decodeU32Table (bStss t.keyframes).pre = some t.keyframes) :
    decodeTrack (bVideoTrak W H t vc lang) = some (videoTrackOf W H t vc lang) := by
  unfold bVideoTrak bVideoStbl videoTrackOf videoStblTypes
  rw [decodeTrack_trak _ rfl rfl rfl (by decide) (by decide)]
  rw [bStsc_eq] at h3 ⊢
  -- in the form of `optDecode` on a table that is present
  have h2' := congrArg (Option.map some) h2
  have h6' := congrArg (Option.map some) h6
  by_cases hb : t.hasBframes = true <;> by_cases hk : t.keyframes = []
  all_goals
    simp only [hb, hk, ne_eq, not_true_eq_false, not_false_eq_true, if_true, if_false, List.append_nil,
      List.cons_append, List.nil_append, Bool.false_eq_true]
  · exact stblPart_of rfl rfl rfl rfl rfl rfl rfl h1 h2' h3 h4 h5 (cs := some _) (ss := none) rfl
  · exact stblPart_of rfl rfl rfl rfl rfl rfl rfl h1 h2' h3 h4 h5 h6'
  · exact stblPart_of rfl rfl rfl rfl rfl rfl rfl h1 (cs := none) rfl h3 h4 h5 (ss := none) rfl
  · exact stblPart_of rfl rfl rfl rfl rfl rfl rfl h1 (cs := none) rfl h3 h4 h5 h6'

theorem decodeTrack_audio_full (a : AudioTrack) (t : Tables) (lang : Option (List Nat))
    (h1 : decodeStts (bStts t.durations).pre = some (rle t.durations))
    (h3 : decodeStsc (bStsc t.samplesPerChunk t.chunkOffsets.length).pre =
      some (stscTable t.samplesPerChunk t.chunkOffsets.length))
    (h4 : decodeStsz (bStsz t.sizes).pre = some t.sizes)
    (h5 : decodeU32Table (bStco t.chunkOffsets).pre = some t.chunkOffsets) :
    decodeTrack (bAudioTrak a t lang) = some (audioTrackOf a t lang) := by
  unfold bAudioTrak bAudioStbl audioTrackOf audioStblTypes
  rw [decodeTrack_trak _ rfl rfl rfl (by decide) (by decide)]
  rw [bStsc_eq] at h3 ⊢
  exact stblPart_of rfl rfl rfl rfl rfl rfl rfl h1 (cs := none) rfl h3 h4 h5 (ss := none) rfl

/-- the fields of a decoded track that the chunk walk uses -/
structure TrackTables (t : Track) (stsc : List (Nat × Nat × Nat)) (sizes stco : List Nat)
    (stss : Option (List Nat)) : Prop where
  stsc_eq : t.stsc = stsc
  sizes_eq : t.sizes = sizes
  stco_eq : t.stco = stco
  stss_eq : t.stss = stss

/-- the audio `trak` of the moov, if an audio track is configured -/
def audioTraks (audio : Option (AudioTrack × Tables)) (lang : Option (List Nat)) : List Box :=
  match audio with
  | some (a, at_) => [bAudioTrak a at_ lang]
  | none => []

/-- duration (ms) and next-track id that `bMoov` hands to `bMvhd` -/
def mvhdArgs (vt : Tables) (audio : Option (AudioTrack × Tables)) : Nat × Nat :=
  (max (toMs vt.totalDuration) (match audio with | some (_, at_) => toMs at_.totalDuration | none => 0),
   if audio.isSome then 3 else 2)

theorem bMoov_lookups (W H : Nat) (vt : Tables) (audio : Option (AudioTrack × Tables)) (vc : VideoConfig)
    (md : Option Metadata) :
    child? "mvhd" (bMoov W H vt audio vc md).kids = some (bMvhd (mvhdArgs vt audio).1 (mvhdArgs vt audio).2) ∧
    children "trak" (bMoov W H vt audio vc md).kids =
      bVideoTrak W H vt vc (md.bind (·.language)) :: audioTraks audio (md.bind (·.language)) ∧
    child? "udta" (bMoov W H vt audio vc md).kids = md.bind bUdta := by
  unfold bMoov
  have hu := bind_bUdta_typ md
  generalize md.bind bUdta = u? at hu
  cases u? with
  | none => rcases audio with _ | ⟨a, t⟩ <;> exact ⟨rfl, rfl, rfl⟩
  | some u =>
    -- the optional last child has type `udta`
    have := hu u rfl
    obtain ⟨t, p, k⟩ := u
    simp only [Box.typ] at this
    subst this
    rcases audio with _ | ⟨a, t⟩ <;> exact ⟨rfl, rfl, rfl⟩

/-- what `parseMovie` does once the file is parsed and the moov found -/
def readMoov (top : List Box) (moov : Box) : Option Movie := do
  let mvhd ← child? "mvhd" moov.kids
  let tracks ← (children "trak" moov.kids).mapM decodeTrack
  some ⟨top, moov, mvhd.pre, tracks, child? "udta" moov.kids⟩

theorem parseMovie_of_top {file : Bytes} {top : List Box} {moov : Box} (htop : parseFileTree file = some top)
    (hm : child? "moov" top = some moov) : parseMovie file = readMoov top moov := by
  unfold parseMovie
  rw [htop, Option.bind_eq_bind, Option.bind_some, hm]
  rfl

theorem mapM_cons_some {α β} {f : α → Option β} {a : α} {as : List α} {b : β} {bs : List β}
    (h : f a = some b) (hs : as.mapM f = some bs) : (a :: as).mapM f = some (b :: bs) := by
  rw [List.mapM_cons, h, hs]; rfl

theorem parseMovie_of_full (file : Bytes) (top : List Box) (W H : Nat) (vt : Tables)
    (audio : Option (AudioTrack × Tables)) (vc : VideoConfig) (md : Option Metadata) (tracks : List Track)
    (htop : parseFileTree file = some top)
    (hm : child? "moov" top = some (bMoov W H vt audio vc md))
    (ht : (bVideoTrak W H vt vc (md.bind (·.language)) :: audioTraks audio (md.bind (·.language))).mapM decodeTrack
       = some tracks) :
    parseMovie file = some ⟨top, bMoov W H vt audio vc md,
      (bMvhd (mvhdArgs vt audio).1 (mvhdArgs vt audio).2).pre, tracks, md.bind bUdta⟩ := by
  obtain ⟨h1, h2, h3⟩ := bMoov_lookups W H vt audio vc md
  rw [parseMovie_of_top htop hm, readMoov, h1, h2, ht, h3]
  rfl

theorem child_moov_top (moov : Box) (payload : Bytes) (hm : moov.typ = ascii "moov") :
    child? "moov" [bFtyp, moov, mdatBox payload] = some moov ∧
    child? "moov" [bFtyp, mdatBox payload, moov] = some moov ∧
    child? "moov" [bFtyp, moov] = some moov := by
  obtain ⟨t, p, k⟩ := moov
  simp only [Box.typ] at hm
  subst hm
  exact ⟨rfl, rfl, rfl⟩

theorem samples_payload_sync (t : Track) (file : Bytes) (datas : List Bytes) (keys : List Bool)
    (h1 : t.ranges.map (fun r => slice file r.1 r.2) = datas) (h2 : t.syncFlags = keys) :
    (t.samples file).map (fun s => (s.1, s.2.1)) = datas.zip keys := by
  subst h1 h2
  rw [Track.samples, List.map_map, List.zip_map_left]
  rfl

theorem samples_payload (t : Track) (file : Bytes) (datas : List Bytes)
    (h1 : t.ranges.map (fun r => slice file r.1 r.2) = datas) (h2 : datas.length ≤ t.syncFlags.length) :
    (t.samples file).map (·.1) = datas := by
  rw [← List.map_fst_zip h2, ← samples_payload_sync t file datas _ h1 rfl, List.map_map]
  rfl

theorem syncFlags_length (t : Track) : t.syncFlags.length = t.sizes.length := by
  unfold Track.syncFlags
  split <;> simp

theorem keyframesOf_contains (vs : List Sample) (i : Nat) (hi : i < vs.length) :
    (keyframesOf vs).contains (i + 1) = vs[i].key := by
  rw [Bool.eq_iff_iff, List.contains_iff_mem]
  simp only [keyframesOf, List.mem_map, List.mem_filter]
  constructor
  · rintro ⟨⟨j, s⟩, ⟨hm, hk⟩, hj⟩
    simp only [Nat.add_right_cancel_iff] at hj
    subst hj
    obtain ⟨n, hn, e⟩ := List.mem_iff_getElem.mp hm
    simp only [List.getElem_zip, List.getElem_range, Prod.mk.injEq] at e
    obtain ⟨rfl, rfl⟩ := e
    exact hk
  · intro hk
    refine ⟨(i, vs[i]), ⟨?_, hk⟩, rfl⟩
    apply List.mem_iff_getElem.mpr
    refine ⟨i, by simpa using hi, ?_⟩
    simp

theorem syncFlags_keyframes (vs : List Sample) :
    (List.range vs.length).map (fun i => (keyframesOf vs).contains (i + 1)) = vs.map (·.key) := by
  apply List.ext_getElem (by simp)
  intro i h1 h2
  have hi : i < vs.length := by simpa using h2
  simp only [List.getElem_map, List.getElem_range]
  exact keyframesOf_contains vs i hi

theorem keyframesOf_ne_nil (vs : List Sample) (s : Sample) (h : vs.head? = some s) (hk : s.key = true) :
    keyframesOf vs ≠ [] := by
  cases vs with
  | nil => simp at h
  | cons a r =>
    obtain rfl : a = s := by simpa using h
    -- the first pair of the zip passes the filter
    simp [keyframesOf, List.range_succ_eq_map, hk]

/-- key flags of the queued video frames, newest first: the last one (the oldest frame) is set -/
def FirstKey (w : Writer) : Prop := ∀ k, (w.vsRev.map (·.key)).getLast? = some k → k = true

theorem Writer.Reachable.firstKey {w : Writer} (h : w.Reachable) : FirstKey w := by
  refine h.push_induction (P := FirstKey) (fun _ _ k hk => by simp at hk) ?_ ?_ (fun _ ih => ih)
  · intro w pts dts d key hr ih he k
    obtain ⟨vc, e⟩ := w.videoPush_eq pts dts d key
    rw [e]
    show (key :: (pushRev w.vsRev w.vPrev dts).map (·.key)).getLast? = some k → k = true
    rw [map_pushRev _ (fun _ _ => rfl)]
    cases hv : w.vsRev with
    | nil =>
      -- the first frame: the writer has checked the key flag
      have hp : w.vPrev = none := by rw [hr.inv.vPrev, hv]; rfl
      intro hk
      rw [← Option.some.inj hk]
      exact ((Writer.videoErr_none he).2.2.2.2 hp).1
    | cons a r =>
      rw [List.map_cons, List.getLast?_cons_cons]
      intro hk
      exact ih k (by rw [hv]; exact hk)
  · intro w pts d _ ih _
    rw [Writer.audioPush_eq]; exact ih

theorem Writer.Reachable.keyframes_ne_nil {w : Writer} (h : w.Reachable) (hne : w.vsRev ≠ []) :
    keyframesOf w.vsRev.reverse ≠ [] := by
  have hk := h.firstKey
  cases hh : w.vsRev.reverse.head? with
  | none => simp at hh; exact absurd hh hne
  | some s =>
    refine keyframesOf_ne_nil _ s hh (hk s.key ?_)
    rw [List.head?_reverse] at hh
    rw [List.getLast?_map, hh]; rfl

end Muxide
