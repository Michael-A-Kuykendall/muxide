import Muxide.Lemmas.Sink
import Muxide.Lemmas.ApiCalls
/-
  C13 — Sink failures and partial writes never corrupt, duplicate or hide data.
  The sink is an arbitrary response function over an arbitrary state (`Respond σ`): it may fail
  any call, accept any non-empty part of a buffer, return Ok(0), or report Interrupted.
-/
namespace Muxide.Props.C13
open Muxide

variable {σ : Type}

/-- one `finish_in_place_with_stats` against a given sink: the chunks `finalize` hands to
    `write_counted`, delivered through `write_all` -/
def finishOn (respond : Respond σ) (fuel : Nat) (sink : Sink σ) (m : Muxer) : Muxer × Sink σ × Reply :=
  let out := (m.finishStats deliverAll).2.1
  let chunks := if m.finished then [] else out.chunks
  let r := writeChunks respond fuel sink chunks 0
  let res := m.finishStats (fun _ => (r.2.1, r.2.2))
  (res.1, r.1, res.2.2)

/-- the file a fault-free sink would receive from this muxer state -/
def faultFreeFile (m : Muxer) : Bytes :=
  if m.finished then [] else ((m.w.finalize m.width m.height m.md m.fast).2.chunks).flatten

/-- the chunk list does not depend on what the sink does -/
theorem chunks_indep (m : Muxer) (d : Deliver) :
    (m.finishStats d).2.1.chunks = (m.finishStats deliverAll).2.1.chunks := by
  cases hf : m.finished with
  | true => rw [m.finishStats_finished d hf, m.finishStats_finished _ hf]
  | false => rw [m.finishStats_eq d hf, m.finishStats_eq _ hf]

open List in
/-- **Prefix**: whatever the sink does, what it has accepted after the finish attempt is what it
    held before plus a prefix of the fault-free file (the whole file when every write succeeded:
    `C13_err_iff`). -/
theorem C13_prefix (respond : Respond σ) (fuel : Nat) (sink : Sink σ) (m : Muxer) :
    ∃ p, p <+: faultFreeFile m ∧ (finishOn respond fuel sink m).2.1.got = sink.got ++ p := by
  unfold finishOn faultFreeFile
  cases hf : m.finished with
  | true => exact ⟨[], by simp, by simp [writeChunks]⟩
  | false =>
    rw [m.finishStats_eq deliverAll hf]
    obtain ⟨p, hp, hg, _⟩ := writeChunks_prefix respond fuel sink
      (m.w.finalize m.width m.height m.md m.fast).2.chunks 0
    exact ⟨p, hp, hg⟩

/-- **Transparency**: a sink that only shortens or interrupts (never fails, never returns Ok(0))
    and is given enough retries delivers exactly the fault-free bytes. Stated on `write_all`:
    if it returns Ok, the whole buffer was appended. -/
theorem C13_transparent (respond : Respond σ) (fuel : Nat) (sink : Sink σ) (cs : List Bytes)
    (h : (writeChunks respond fuel sink cs 0).2.1 = .ok ()) :
    (writeChunks respond fuel sink cs 0).1.got = sink.got ++ cs.flatten ∧
    (writeChunks respond fuel sink cs 0).2.2 = (cs.map (·.length)).sum := by
  simpa using writeChunks_ok respond fuel sink cs 0 h

/-- **Error iff a write ultimately failed** (when finalize itself has nothing to report):
    the reply is an error exactly when some `write_all` failed, and on success the sink holds the
    complete fault-free file and the reported byte count is its length. -/
theorem C13_err_iff (respond : Respond σ) (fuel : Nat) (sink : Sink σ) (m : Muxer)
    (hf : m.finished = false)
    (hres : (m.w.finalize m.width m.height m.md m.fast).2.res = .ok) :
    let r := writeChunks respond fuel sink (m.w.finalize m.width m.height m.md m.fast).2.chunks 0
    let reply := (m.finishStats (fun _ => (r.2.1, r.2.2))).2.2
    (r.2.1 ≠ .ok () → reply = .err .io none) ∧
    (r.2.1 = .ok () → r.1.got = sink.got ++ faultFreeFile m ∧
      ∃ st, reply = .stats st ∧ st.bytes = min (m.w.bytesWritten + (faultFreeFile m).length) u64Max) := by
  intro r reply
  simp only [reply, m.finishStats_eq _ hf, hres]
  constructor
  · intro hne
    cases hr : r.2.1 with
    | error e => rfl
    | ok u => exact absurd hr hne
  · intro hok
    obtain ⟨hg, hcnt⟩ : r.1.got = _ ∧ r.2.2 = _ := writeChunks_ok respond fuel sink _ 0 hok
    have hfile : faultFreeFile m = (m.w.finalize m.width m.height m.md m.fast).2.chunks.flatten := by
      simp [faultFreeFile, hf]
    rw [hok, hfile]
    exact ⟨hg, _, rfl, by simp [finalize_fst, hcnt, List.length_flatten]⟩

/-- **After a finish attempt nothing further is written**: `finalize` sets `finalized` before it
    writes, so any later finalize hands no chunk to the sink and reports an error. -/
theorem C13_after (w : Writer) (width height : Nat) (md : Option Metadata) (fast : Bool) :
    let w1 := (w.finalize width height md fast).1
    w1.finalized = true ∧ (w1.finalize width height md fast).2.chunks = [] ∧
    (∃ msg, (w1.finalize width height md fast).2.res = .ioErr msg) := by
  intro w1
  have h1 : w1.finalized = true := by rw [show w1 = _ from finalize_fst ..]
  rw [finalize_of_finalized _ _ _ _ _ h1]
  exact ⟨h1, rfl, _, rfl⟩

/-- … and every later frame write is rejected by the writer -/
theorem C13_after_writes (w : Writer) (h : w.finalized = true) (pts dts : Nat) (d : Bytes) (k : Bool) :
    w.writeVideo pts dts d k = (w, .err .alreadyFinalized) ∧ w.writeAudio pts d = (w, .err .alreadyFinalized) := by
  rw [Writer.writeVideo_eq, Writer.writeAudio_eq, Writer.videoErr_finalized h, Writer.audioErr_finalized h]
  exact ⟨rfl, rfl⟩

/-- a sink that takes every buffer whole (Vec, Cursor, File): `write_all` succeeds on every chunk with
    a single call, so `finish` hands over exactly the chunks, in order, and counts them all. (The
    driver uses this to append the chunk list in one step for fault-free sinks.) -/
theorem C13_reliable_sink (respond : Respond σ)
    (hr : ∀ st buf, ∃ st', respond st buf = (st', .accept buf.length))
    (fuel : Nat) (sink : Sink σ) (cs : List Bytes) (cnt : Nat) :
    (writeChunks respond (fuel + 1) sink cs cnt).1.got = sink.got ++ cs.flatten ∧
    (writeChunks respond (fuel + 1) sink cs cnt).2.1 = .ok () ∧
    (writeChunks respond (fuel + 1) sink cs cnt).2.2 = cnt + (cs.map (·.length)).sum := by
  -- one `write` call takes the whole buffer, so `write_all` succeeds on every chunk …
  have one : ∀ (s : Sink σ) (buf : Bytes), (writeAll respond (fuel + 1) s buf).2 = .ok () := by
    intro s buf
    unfold writeAll
    by_cases hb : buf = []
    · rw [if_pos hb]
    · obtain ⟨st', hst⟩ := hr s.st buf
      have hl : buf.length ≠ 0 := by simpa using hb
      simp only [hb, if_false, hst, hl, Nat.min_self, List.drop_length]
      cases fuel <;> simp [writeAll]
  have ok : (writeChunks respond (fuel + 1) sink cs cnt).2.1 = .ok () := by
    induction cs generalizing sink cnt with
    | nil => rfl
    | cons c cs ih =>
      unfold writeChunks
      split
      · exact ih _ _
      · next h => have := one sink c; rw [h] at this; cases this
  -- … and what a successful run delivers and counts is known for any sink
  exact ⟨(writeChunks_ok respond (fuel + 1) sink cs cnt ok).1, ok, (writeChunks_ok respond (fuel + 1) sink cs cnt ok).2⟩

/-- non-vacuity: a scripted sink that accepts 2 bytes, is interrupted, accepts 1 byte and then
    fails leaves exactly the 3-byte prefix -/
example : (writeChunks scripted 10 ⟨[.accept 2, .interrupted, .accept 1, .fail 7], []⟩ [[1, 2, 3], [4, 5]] 0).1.got = [1, 2, 3] := by
  decide

end Muxide.Props.C13
