import Muxide.Lemmas.FragRead
/-
  C10 — Fragmented muxer: the emitted media segments carry exactly the accepted writes, in order;
  empty flushes emit nothing and consume no sequence number; sequence numbers are 1, 2, 3, …;
  a write is rejected iff its decode time is lower than the previously accepted one; queries are pure;
  the sample bytes are found through the trun data offset relative to the start of the moof.

  A run is a list of `FOp` (write / flush / ready / dur / init) executed by `runF` from the initial
  state `start c = { cfg := c }`.  `accepted` = samples of the writes answered `.ok`;
  `emitted` = queue contents at each successful flush; `segments` = the bytes those flushes returned.
  Definitions and helper lemmas live in Muxide/Lemmas/Frag.lean, FragRead.lean.
-/
namespace Muxide.Props.C10
open Muxide Muxide.Spec

/-- the state of a freshly created fragmented muxer -/
def start (c : FragConfig) : Frag := { cfg := c }

/-! ### conservation -/

/-- **Conservation**: for every interleaving of operations, the samples of the emitted segments (in
    emission order) followed by the samples still queued are exactly the accepted writes, in order —
    nothing lost, duplicated, reordered or altered. -/
theorem C10_conserve (c : FragConfig) (ops : List FOp) :
    (emitted (start c) ops).flatten ++ (runF (start c) ops).1.samples = accepted (start c) ops := by
  simpa [start] using run_conserve (start c) ops

/-- with a final flush, the emitted segments carry all accepted writes and nothing stays queued -/
theorem C10_conserve_final (c : FragConfig) (ops : List FOp) :
    (emitted (start c) (ops ++ [.flush])).flatten = accepted (start c) ops ∧
    (runF (start c) (ops ++ [.flush])).1.samples = [] := by
  have h := C10_conserve c (ops ++ [.flush])
  have hq : (runF (start c) (ops ++ [.flush])).1.samples = [] := by
    rw [runF_append]
    simp only [runF_cons, runF_nil, stepF]
    by_cases hs : (runF (start c) ops).1.samples = []
    · rw [flush_nil _ hs]; exact hs
    · rw [flush_ne_nil _ hs]
  have ha : accepted (start c) (ops ++ [.flush]) = accepted (start c) ops := by
    rw [accepted_append, accepted_cons]
    simp [acceptedOne]
  rw [hq, ha, List.append_nil] at h
  exact ⟨h, hq⟩

/-! ### sequence numbers -/

/-- every successful flush returns exactly one segment -/
theorem C10_seq_count (c : FragConfig) (ops : List FOp) :
    (segments (start c) ops).length = (emitted (start c) ops).length := by
  rw [(segments_eq _ _ (show 1 < 2^32 by decide)).2, List.length_mapIdx]

/-- **Sequence numbers 1, 2, 3, …**: the k-th emitted segment (k = 0, 1, …) is non-empty and is
    `buildSegment samples_k (k+1) (dts of its first sample)`, as long as `k + 1 < 2^32`
    (the model, like the `u32` counter, wraps modulo 2^32 afterwards). -/
theorem C10_seq (c : FragConfig) (ops : List FOp) (k : Nat) (ss : List FSample)
    (h : (emitted (start c) ops)[k]? = some ss) (hk : k + 1 < 2^32) :
    ss ≠ [] ∧ (segments (start c) ops)[k]? = some (buildSegment ss (k + 1) (firstDts ss)) := by
  refine ⟨emitted_ne_nil _ _ ss (List.mem_of_getElem? h), ?_⟩
  rw [(segments_eq _ _ (show 1 < 2^32 by decide)).2, List.getElem?_mapIdx, h]
  show some (buildSegment ss ((1 + k) % 2^32) _) = _
  rw [Nat.mod_eq_of_lt (by omega), Nat.add_comm]

/-- the segment a reader sees carries that sequence number in its `mfhd` (see `C10_bytes`) -/
theorem C10_seq_mfhd (ss : List FSample) (q b off : Nat) :
    (fMoof ss q b off).kids.head? = some (Box.leaf "mfhd" (u32be 0 ++ u32be q)) := rfl

/-! ### empty flush -/

/-- **Flushing with nothing queued** yields no segment, leaves the state (in particular the
    sequence counter) unchanged. -/
theorem C10_empty_flush (f : Frag) (h : f.samples = []) : f.flush = (f, .none) :=
  flush_nil f h

/-- conversely a flush with a non-empty queue always yields a segment -/
theorem C10_nonempty_flush (f : Frag) (h : f.samples ≠ []) : ∃ b, f.flush.2 = .seg b := by
  rw [flush_ne_nil f h]; exact ⟨_, rfl⟩

/-! ### rejection -/

/-- **Rejected iff decode time goes backwards**: the reply is `errNonMonotonic` iff a write was
    accepted before and `dts` is lower than its dts; then the state is unchanged (nothing queued).
    Otherwise the reply is `ok`, the sample is appended to the queue unaltered and `lastDts = dts`. -/
theorem C10_reject_iff (f : Frag) (pts dts : Nat) (data : Bytes) (sync : Bool) :
    ((f.write pts dts data sync).2 = .errNonMonotonic ↔ ∃ l, f.lastDts = some l ∧ dts < l) ∧
    ((∃ l, f.lastDts = some l ∧ dts < l) → f.write pts dts data sync = (f, .errNonMonotonic)) ∧
    ((¬ ∃ l, f.lastDts = some l ∧ dts < l) → f.write pts dts data sync =
      ({ f with lastDts := some dts, samples := f.samples ++ [⟨pts, dts, data, sync⟩] }, .ok)) := by
  refine ⟨⟨fun h => ?_, fun h => ?_⟩, fun h => write_reject f pts dts data sync h,
    fun h => write_accept f pts dts data sync h⟩
  · by_cases hr : Rejects f dts
    · exact hr
    · rw [write_accept f pts dts data sync hr] at h; cases h
  · rw [write_reject f pts dts data sync h]

/-- **`lastDts` invariant**: in every reachable state `lastDts` is the dts of the last accepted
    write (`none` before the first one) — so "previously accepted" in `C10_reject_iff` is meant
    literally, across flushes and queries. -/
theorem C10_lastDts (c : FragConfig) (ops : List FOp) :
    (runF (start c) ops).1.lastDts = (accepted (start c) ops).getLast?.map (·.dts) := by
  simpa [start] using run_lastDts (start c) ops

/-- accepted decode times are non-decreasing -/
theorem C10_accepted_sorted (c : FragConfig) (ops : List FOp) :
    (accepted (start c) ops).Pairwise (fun a b => a.dts ≤ b.dts) :=
  (run_sorted (start c) ops).1

/-- the i-th reply of a run is the reply of the i-th operation in the state reached by the first
    i operations: the step theorems (c, d, e) apply at every point of every run -/
theorem C10_reply_at (c : FragConfig) (ops : List FOp) (i : Nat) (op : FOp) (h : ops[i]? = some op) :
    (runF (start c) ops).2[i]? = some (stepF (runF (start c) (ops.take i)).1 op).2 :=
  (run_reply_at (start c) ops i op h).2

/-! ### queries are pure -/

/-- `ready` and `dur` do not change the state; `init` changes at most `initCache`; every other
    operation gives the same reply and the same next state (up to `initCache`) on two states
    that differ only in `initCache`. -/
theorem C10_queries_pure (f : Frag) :
    stepF f .ready = (f, f.ready) ∧ stepF f .dur = (f, f.durMs) ∧
    f.sameExceptCache (stepF f .init).1 ∧
    (∀ (g : Frag) (op : FOp), op ≠ .init → f.sameExceptCache g →
      (stepF f op).2 = (stepF g op).2 ∧ (stepF f op).1.sameExceptCache (stepF g op).1) :=
  ⟨rfl, rfl, init_sameExceptCache f, fun g op => step_sameExceptCache f g op⟩

/-- `sameExceptCache` is literally "equal after erasing `initCache`" -/
theorem C10_sameExceptCache_iff (f g : Frag) :
    f.sameExceptCache g ↔ { f with initCache := none } = { g with initCache := none } :=
  sameExceptCache_iff f g

/-- run level: two states that differ only in a (well-formed: empty or `buildInit cfg`) cache give
    the same replies to every operation list, `init` requests included -/
theorem C10_cache_irrelevant (f g : Frag) (ops : List FOp) (h : f.sameExceptCache g)
    (hf : f.cacheOk) (hg : g.cacheOk) :
    (runF f ops).2 = (runF g ops).2 ∧ (runF f ops).1.sameExceptCache (runF g ops).1 :=
  run_sameExceptCache f g ops h hf hg

/-- run level: deleting every init-segment request from a run changes none of the other replies -/
theorem C10_init_transparent (c : FragConfig) (ops : List FOp) :
    nonInitReplies ops (runF (start c) ops).2 = (runF (start c) (ops.filter (· ≠ .init))).2 :=
  run_drop_init (start c) ops nofun

/-! ### the bytes, read back by the independent reader -/

/-- structural fact: a media segment is the moof box (whose trun data offset is `moof size + 8`),
    an 8-byte mdat header, and the sample payloads concatenated in order -/
theorem C10_segment_layout (ss : List FSample) (q b : Nat) :
    buildSegment ss q b =
      (fMoof ss q b ((fMoof ss q b 0).ser.length % 2^32 + 8)).ser ++
        u32be (8 + (ss.map (·.data.length)).sum) ++ ascii "mdat" ++ ss.flatMap (·.data) :=
  rfl

/-- the moof size does not depend on the data-offset value written into it (so computing the
    offset from a moof built with offset 0 is sound) -/
theorem C10_size_moof_indep (ss : List FSample) (q b off off' : Nat) :
    (fMoof ss q b off).ser.length = (fMoof ss q b off').ser.length :=
  size_moof_indep ss q b off q b off'

/-- **Reader round trip**: if the moof size + 8 fits a positive `i32` (the signed trun data
    offset), the mdat size `8 + Σ payload` fits the 32-bit box size field, and the base decode
    time fits 64 bits, then the independent reader parses the segment, sees sequence number
    `q mod 2^32`, base decode time `b`, and — locating the run through the trun data offset
    relative to the start of the moof (default-base-is-moof) — reads back exactly the submitted
    payloads, in order.
    NOTE the hypothesis `h2`: per-sample `data.length < 2^32` alone is NOT enough, the mdat size
    field `(8 + Σ payload) as u32` wraps when the total reaches 2^32 − 8 (see `C10_mdat_overflow`). -/
theorem C10_bytes (ss : List FSample) (q b : Nat)
    (h1 : (fMoof ss q b 0).ser.length + 8 < 2^31)
    (h2 : 8 + (ss.map (·.data.length)).sum < 2^32) (hb : b < 2^64) :
    ∃ seg, parseSegment (buildSegment ss q b) = some seg ∧ seg.seq = q % 2^32 ∧ seg.tfdt = b ∧
      seg.dataOffset = some (((fMoof ss q b 0).ser.length + 8 : Nat) : Int) ∧
      seg.rows.length = ss.length ∧
      seg.sampleBytes (buildSegment ss q b) = some (ss.map (·.data)) := by
  rw [fMoof_ser_length] at h1
  have h1' : 96 + 16 * ss.length < 2^31 := by omega
  have hp := parseSegment_buildSegment ss q b h1' h2 hb
  refine ⟨_, hp, rfl, rfl, ?_, ?_, sampleBytes_buildSegment ss q b h1' h2 hb hp⟩
  · rw [fMoof_ser_length]
    have : 88 + 16 * ss.length + 8 = 96 + 16 * ss.length := by omega
    rw [this]
  · simp

/-- the hypotheses of `C10_bytes` are satisfiable (two samples, second with an empty payload) -/
example : ∃ seg, parseSegment (buildSegment [⟨10, 0, [1, 2, 3], true⟩, ⟨5, 5, [], false⟩] 7 0) = some seg ∧
    seg.sampleBytes (buildSegment [⟨10, 0, [1, 2, 3], true⟩, ⟨5, 5, [], false⟩] 7 0) = some [[1, 2, 3], []] := by
  obtain ⟨seg, h, _, _, _, _, hs⟩ := C10_bytes [⟨10, 0, [1, 2, 3], true⟩, ⟨5, 5, [], false⟩] 7 0
    (by rw [fMoof_ser_length]; decide) (by decide) (by decide)
  exact ⟨seg, h, hs⟩

/-- run level: every segment emitted in a run (within the size bounds) is read back as its own
    samples, with sequence number k+1 and base decode time = its first sample's dts -/
theorem C10_run_bytes (c : FragConfig) (ops : List FOp) (k : Nat) (ss : List FSample)
    (h : (emitted (start c) ops)[k]? = some ss) (hk : k + 1 < 2^32)
    (h1 : 96 + 16 * ss.length < 2^31) (h2 : 8 + (ss.map (·.data.length)).sum < 2^32)
    (hb : firstDts ss < 2^64) :
    ∃ bytes seg, (segments (start c) ops)[k]? = some bytes ∧ parseSegment bytes = some seg ∧
      seg.seq = k + 1 ∧ seg.tfdt = firstDts ss ∧ seg.sampleBytes bytes = some (ss.map (·.data)) := by
  obtain ⟨_, hseg⟩ := C10_seq c ops k ss h hk
  obtain ⟨seg, hp, hq, ht, _, _, hs⟩ := C10_bytes ss (k + 1) (firstDts ss)
    (by rw [fMoof_ser_length]; omega) h2 hb
  exact ⟨_, seg, hseg, hp, hq.trans (Nat.mod_eq_of_lt hk), ht, hs⟩

/-- **Finding**: the bound `h2` of `C10_bytes` is necessary in some form. When the queued payload
    reaches 2^32 − 8 bytes the hand-written mdat header `(8 + Σ payload) as u32` wraps; if it wraps to
    a value below 8 the emitted segment is not a well-formed box sequence and the reader rejects it. -/
theorem C10_mdat_overflow (ss : List FSample) (q b : Nat) (h1 : 88 + 16 * ss.length < 2^32)
    (h2 : (8 + (ss.map (·.data.length)).sum) % 2^32 < 8) :
    parseSegment (buildSegment ss q b) = none := by
  -- the moof parses; what follows it starts with a size word below 8
  have ht : parseFileTree (buildSegment ss q b) = none := by
    simp only [buildSegment, List.append_assoc]
    exact parseFileTree_small_size _ (conforms_of_shape _ (shape_fMoof ..) (by rw [fMoof_size]; exact h1)) _ h2 _
  rw [parseSegment, ht]
  rfl

/-- the hypotheses of `C10_mdat_overflow` hold for one sample of 2^32 − 8 bytes (each sample size
    still fits its own 32-bit trun field) -/
example : ∃ ss : List FSample, 88 + 16 * ss.length < 2^32 ∧ (8 + (ss.map (·.data.length)).sum) % 2^32 < 8 ∧
    ∀ s ∈ ss, s.data.length < 2^32 := by
  refine ⟨[⟨0, 0, List.replicate (2^32 - 8) 0, true⟩], ?_, ?_, ?_⟩
  · simp only [List.length_cons, List.length_nil]; omega
  · simp only [List.map_cons, List.map_nil, List.sum_cons, List.sum_nil, List.length_replicate]; omega
  · intro s hs
    simp only [List.mem_singleton] at hs
    subst hs
    simp only [List.length_replicate]
    omega

/-- a concrete run (empty flush, a rejected write, interleaved queries and init requests):
    two segments numbered 1 and 2, three accepted writes -/
example (c : FragConfig) :
    let ops : List FOp := [.flush, .write 0 0 [1] true, .init, .write 7 5 [2, 3] false, .write 4 4 [9] true,
      .ready, .flush, .flush, .init, .write 9 9 [] true, .dur, .flush]
    emitted (start c) ops = [[⟨0, 0, [1], true⟩, ⟨7, 5, [2, 3], false⟩], [⟨9, 9, [], true⟩]] ∧
    accepted (start c) ops = [⟨0, 0, [1], true⟩, ⟨7, 5, [2, 3], false⟩, ⟨9, 9, [], true⟩] ∧
    segments (start c) ops = [buildSegment [⟨0, 0, [1], true⟩, ⟨7, 5, [2, 3], false⟩] 1 0,
      buildSegment [⟨9, 9, [], true⟩] 2 9] := by
  -- evaluated one operation at a time (`⟨rfl, rfl, rfl⟩` works too, but re-evaluates the nested states)
  simp [emitted_cons, accepted_cons, segments_cons, emittedOne, acceptedOne, segmentOne, stepF, Frag.write,
    Frag.flush, Frag.init, start]

end Muxide.Props.C10
