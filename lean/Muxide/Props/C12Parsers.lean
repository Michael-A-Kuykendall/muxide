import Muxide.Model.Av1
import Muxide.Model.Vp9
import Muxide.Model.Opus
import Muxide.Lemmas.AnnexB
/-
  C12 (parsers) — the byte-level parsers compute only small quantities and every parser loop makes
  progress.

  The Lean model computes on unbounded `Nat`; the Rust code it mirrors computes on
  `usize` / `u64` / `u32` / `u8`.  The theorems below bound every quantity the parsers compute by
  a constant (or by the input length), so no addition / shift / multiplication of the Rust code can
  overflow, and show that every iterator consumes at least one input byte per item, so it
  terminates within `len` iterations — independent of the fuel the model uses.
  Helper lemmas first, property theorems (`C12_…`) below them.
-/
namespace Muxide.Props.C12Parsers
open Muxide

/-! ### helper lemmas -/

theorem byteAt_lt (f : Bytes) (i : Nat) : byteAt f i < 256 := Muxide.byteAt_lt f i

/-- one LEB128 group added below `2^shift` stays below `2^(shift+7)` -/
theorem leb_step_lt (value m shift : Nat) (hv : value < 2 ^ shift) (hm : m < 128) :
    value + m * 2 ^ shift < 2 ^ (shift + 7) := by
  have h1 : m * 2 ^ shift ≤ 127 * 2 ^ shift := Nat.mul_le_mul_right _ (by omega)
  rw [Nat.pow_add]
  omega

/-- the general statement about the LEB128 loop: the index advances by at least one and at most
    `fuel`, never past the input, and the accumulated value has at most `shift + 7·fuel` bits -/
theorem readLeb128Aux_bound (fuel : Nat) : ∀ (d : Bytes) (value shift i v n : Nat),
    value < 2 ^ shift → readLeb128Aux fuel d value shift i = some (v, n) →
    i + 1 ≤ n ∧ n ≤ i + fuel ∧ n ≤ i + d.length ∧ v < 2 ^ (shift + 7 * fuel) := by
  induction fuel with
  | zero => intro d value shift i v n _ h; simp [readLeb128Aux] at h
  | succ fuel ih =>
    intro d value shift i v n hv h
    cases d with
    | nil => simp [readLeb128Aux] at h
    | cons b rest =>
      rw [readLeb128Aux] at h
      have hstep := leb_step_lt value (b.toNat % 128) shift hv (Nat.mod_lt _ (by omega))
      split at h
      · simp only [Option.some.injEq, Prod.mk.injEq] at h
        obtain ⟨rfl, rfl⟩ := h
        refine ⟨Nat.le_refl _, by omega, by simp, ?_⟩
        exact Nat.lt_of_lt_of_le hstep (Nat.pow_le_pow_right (by omega) (by omega))
      · obtain ⟨h1, h2, h3, h4⟩ := ih rest _ _ _ v n hstep h
        refine ⟨by omega, by omega, by simp only [List.length_cons]; omega, ?_⟩
        exact (show shift + 7 + 7 * fuel = shift + 7 * (fuel + 1) by omega) ▸ h4

theorem obusAux_nil (fuel : Nat) : obusAux fuel [] = [] := by
  cases fuel <;> simp [obusAux]

/-- the shape of every successfully parsed OBU header -/
theorem parseObuHeader_bound {d : Bytes} {info : ObuInfo} (h : parseObuHeader d = some info) :
    1 ≤ info.headerSize ∧ info.headerSize ≤ 10 ∧ info.headerSize ≤ d.length ∧
    (info.payloadSize < 2 ^ 56 ∨ info.headerSize + info.payloadSize = d.length) := by
  match d, h with
  | hb :: tl, h =>
    rw [parseObuHeader] at h
    obtain ⟨_, h⟩ := Option.ite_none_left_eq_some.mp h
    obtain ⟨hext, h⟩ := Option.ite_none_left_eq_some.mp h
    dsimp only at h
    -- the header is one byte, or two with the extension byte, which is then present
    generalize hhs : (if hb.toNat / 4 % 2 = 1 then 2 else 1) = hs at h
    have hhs' : 1 ≤ hs ∧ hs ≤ 2 ∧ hs ≤ (hb :: tl).length := by
      subst hhs; split <;> simp only [List.length_cons] at hext ⊢ <;> omega
    split at h
    · obtain ⟨_, h⟩ := Option.ite_none_left_eq_some.mp h
      split at h
      · cases h
      · next size n hleb =>
        cases h
        obtain ⟨l1, l2, l3, l4⟩ := readLeb128Aux_bound 8 _ 0 0 0 _ _ (by decide) hleb
        rw [List.length_drop] at l3
        dsimp only
        exact ⟨by omega, by omega, by omega, .inl l4⟩
    · cases h
      dsimp only
      exact ⟨hhs'.1, by omega, hhs'.2.2, .inr (by omega)⟩

/-- one step of the OBU iterator: the emitted slice is non-empty -/
theorem obu_step {d : Bytes} {info : ObuInfo} (h : parseObuHeader d = some info) :
    1 ≤ info.totalSize := by
  have := parseObuHeader_bound h
  unfold ObuInfo.totalSize; omega

/-- one step of the OBU iterator, whatever the fuel: it stops, or it yields the first `total_size ≥ 1` bytes
    and goes on behind them -/
theorem obusAux_step (d : Bytes) : (∀ fuel, obusAux (fuel + 1) d = []) ∨
    ∃ info, parseObuHeader d = some info ∧ 1 ≤ info.totalSize ∧ info.totalSize ≤ d.length ∧
      ∀ fuel, obusAux (fuel + 1) d = (info, d.take info.totalSize) :: obusAux fuel (d.drop info.totalSize) := by
  by_cases hd : d = []
  · exact .inl fun fuel => by rw [obusAux, if_pos hd]
  cases hp : parseObuHeader d with
  | none => exact .inl fun fuel => by rw [obusAux, if_neg hd, hp]
  | some info =>
    by_cases hle : info.totalSize > d.length
    · exact .inl fun fuel => by rw [obusAux, if_neg hd, hp]; exact if_pos hle
    · exact .inr ⟨info, rfl, obu_step hp, by omega, fun fuel => by rw [obusAux, if_neg hd, hp]; exact if_neg hle⟩

theorem obusAux_progress (fuel : Nat) : ∀ d : Bytes,
    ((obusAux fuel d).map (·.2.length)).sum ≤ d.length ∧ ∀ x ∈ obusAux fuel d, 1 ≤ x.2.length := by
  induction fuel with
  | zero => intro d; simp [obusAux]
  | succ fuel ih =>
    intro d
    rcases obusAux_step d with h | ⟨info, _, h1, hle, h⟩ <;> rw [h]
    · simp
    · obtain ⟨s, m⟩ := ih (d.drop info.totalSize)
      rw [List.length_drop] at s
      simp only [List.map_cons, List.sum_cons, List.length_take, List.forall_mem_cons]
      exact ⟨by omega, by omega, m⟩

theorem obusAux_fuel (f1 : Nat) : ∀ (f2 : Nat) (d : Bytes), d.length ≤ f1 → d.length ≤ f2 →
    obusAux f1 d = obusAux f2 d := by
  induction f1 with
  | zero =>
    intro f2 d h1 _
    rw [List.eq_nil_of_length_eq_zero (Nat.le_zero.mp h1), obusAux_nil, obusAux_nil]
  | succ g1 ih =>
    intro f2 d h1 h2
    cases f2 with
    | zero => rw [List.eq_nil_of_length_eq_zero (Nat.le_zero.mp h2), obusAux_nil, obusAux_nil]
    | succ g2 =>
      rcases obusAux_step d with h | ⟨info, _, h3, hle, h⟩ <;> rw [h, h]
      rw [ih g2 _ (by rw [List.length_drop]; omega) (by rw [List.length_drop]; omega)]

theorem obusAux_concat (fuel : Nat) : ∀ d : Bytes, ((obusAux fuel d).flatMap (·.2)) <+: d := by
  induction fuel with
  | zero => intro d; simp [obusAux]
  | succ fuel ih =>
    intro d
    rcases obusAux_step d with h | ⟨info, _, _, _, h⟩ <;> rw [h]
    · simp
    · rw [List.flatMap_cons]
      conv => rhs; rw [← List.take_append_drop info.totalSize d]
      exact (List.prefix_append_right_inj _).mpr (ih _)

/-- the general statement about the VP9 variable-length loop -/
theorem vp9VarUint_bound (d : Bytes) (fuel : Nat) : ∀ (off value shift v off' : Nat),
    vp9VarUint d fuel off value shift = some (v, off') →
    v < 2 ^ 32 ∧ off < off' ∧ off' ≤ d.length ∧ off' ≤ off + fuel ∧
    (off' = off + 1 ∨ 7 * (off' - off) + shift ≤ 38) := by
  induction fuel with
  | zero => intro off value shift v off' h; cases h
  | succ fuel ih =>
    intro off value shift v off' h
    rw [vp9VarUint] at h
    obtain ⟨hoff, h⟩ := Option.ite_none_left_eq_some.mp h
    dsimp only at h
    by_cases hb : byteAt d off < 128
    · rw [if_pos hb] at h; cases h
      exact ⟨Nat.mod_lt _ (by decide), by omega, by omega, by omega, .inl rfl⟩
    · rw [if_neg hb] at h
      obtain ⟨hs, h⟩ := Option.ite_none_left_eq_some.mp h
      obtain ⟨h1, h2, h3, h4, h5⟩ := ih _ _ _ v off' h
      exact ⟨h1, by omega, h3, by omega, .inr (by omega)⟩

/-- the loop ends by itself once the shift reaches 32: two amounts of fuel that both last until then agree -/
theorem vp9VarUint_fuel (d : Bytes) (f1 : Nat) : ∀ (f2 off value shift : Nat),
    32 ≤ shift + 7 * (f1 + 1) → 32 ≤ shift + 7 * (f2 + 1) →
    vp9VarUint d (f1 + 1) off value shift = vp9VarUint d (f2 + 1) off value shift := by
  induction f1 using Nat.strongRecOn with
  | ind f1 ih =>
    intro f2 off value shift h1 h2
    rw [vp9VarUint, vp9VarUint]
    refine ite_congr rfl (fun _ => rfl) fun _ => ite_congr rfl (fun _ => rfl) fun _ => ite_congr rfl (fun _ => rfl) fun hs => ?_
    -- the loop goes round again only while `shift + 7 < 32`: then both fuels allow another iteration
    obtain ⟨g1, rfl⟩ : ∃ g, f1 = g + 1 := ⟨f1 - 1, by omega⟩
    obtain ⟨g2, rfl⟩ : ∃ g, f2 = g + 1 := ⟨f2 - 1, by omega⟩
    exact ih g1 (Nat.lt_succ_self _) g2 _ _ _ (by omega) (by omega)

/-- one more unit of fuel changes nothing once `shift + 7·fuel ≥ 32` -/
theorem vp9VarUint_fuel_succ (d : Bytes) (fuel : Nat) : ∀ (off value shift : Nat),
    32 ≤ shift + 7 * (fuel + 1) →
    vp9VarUint d (fuel + 1) off value shift = vp9VarUint d (fuel + 2) off value shift :=
  fun off value shift h => vp9VarUint_fuel d fuel (fuel + 1) off value shift h (by omega)

/-- every entry of the table of frame durations lies between 2.5 ms and 60 ms at 48 kHz -/
theorem opusTocSamples_bound (toc : Nat) : 120 ≤ opusTocSamples toc ∧ opusTocSamples toc ≤ 2880 := by
  unfold opusTocSamples
  iterate 7 refine iteInduction (motive := fun s => 120 ≤ s ∧ s ≤ 2880) (fun _ => by decide) fun _ => ?_
  decide

theorem nalsAux_progress (fuel : Nat) : ∀ e : Bytes,
    ((nalsAux fuel e).map (·.length)).sum + 3 * (nalsAux fuel e).length ≤ e.length :=
  Muxide.nalsAux_progress fuel

/-! ### AV1: `read_leb128`, `parse_obu_header`, `ObuIter` -/

/-- protects `read_leb128` (av1.rs): `((byte & 0x7F) as u64) << shift` with `shift ≤ 49`, the `u64`
    accumulator (`value < 2^56`, so `|=` of disjoint groups is the model's `+` and `size as usize`
    is lossless on 64-bit targets) and the returned count `i + 1 ≤ 8 ≤ data.len()`. -/
theorem C12_leb128_bound {d : Bytes} {v n : Nat} (h : readLeb128 d = some (v, n)) :
    1 ≤ n ∧ n ≤ 8 ∧ n ≤ d.length ∧ v < 2 ^ 56 := by
  obtain ⟨h1, h2, h3, h4⟩ := readLeb128Aux_bound 8 d 0 0 0 v n (by simp) h
  exact ⟨by omega, by omega, by omega, by simpa using h4⟩

/-- justifies modelling `value |= group << shift` of `read_leb128` by `+`: the accumulator is
    below `2^shift` at every iteration (the invariant carried by `readLeb128Aux_bound`), so the
    bits are disjoint and `|` is `+`; the new accumulator is below `2^(shift+7)`. -/
theorem C12_leb128_or_eq_add (value m shift : Nat) (hv : value < 2 ^ shift) (hm : m < 128) :
    value ||| (m <<< shift) = value + m * 2 ^ shift ∧ value + m * 2 ^ shift < 2 ^ (shift + 7) := by
  refine ⟨?_, leb_step_lt value m shift hv hm⟩
  rw [Nat.or_comm, ← Nat.shiftLeft_add_eq_or_of_lt hv m, Nat.shiftLeft_eq, Nat.add_comm]

/-- protects `parse_obu_header` (av1.rs): `header_size += leb_len` (≤ 10, inside the input, so
    `&data[header_size..]` is in bounds) and `total_size: header_size + payload_size`
    (below `2^56 + 10`, or exactly `data.len()` when the OBU has no size field). -/
theorem C12_obu_header_bound {d : Bytes} {info : ObuInfo} (h : parseObuHeader d = some info) :
    1 ≤ info.headerSize ∧ info.headerSize ≤ 10 ∧ info.headerSize ≤ d.length ∧
    info.payloadSize < 2 ^ 56 + d.length ∧ info.totalSize < 2 ^ 57 + d.length := by
  obtain ⟨h1, h2, h3, h4⟩ := parseObuHeader_bound h
  unfold ObuInfo.totalSize
  refine ⟨h1, h2, h3, ?_, ?_⟩ <;> omega

/-- the tight form of `C12_obu_header_bound`: the payload size is a LEB128 value (`< 2^56`) or the
    header and payload together are exactly the input; hence `total_size ≤ max (2^56 + 9) len`. -/
theorem C12_obu_header_bound_tight {d : Bytes} {info : ObuInfo}
    (h : parseObuHeader d = some info) :
    (info.payloadSize < 2 ^ 56 ∨ info.totalSize = d.length) ∧
    info.totalSize ≤ max (2 ^ 56 + 9) d.length := by
  obtain ⟨h1, h2, h3, h4⟩ := parseObuHeader_bound h
  unfold ObuInfo.totalSize
  exact ⟨h4, by omega⟩

/-- protects `header_size + payload_size` in `usize` (64-bit): for every input shorter than `2^56`
    bytes the sum is below `2^57`; for every input a 64-bit address space can hold it is `< 2^64`. -/
theorem C12_obu_total_no_overflow {d : Bytes} {info : ObuInfo} (h : parseObuHeader d = some info) :
    (d.length < 2 ^ 56 → info.totalSize < 2 ^ 57) ∧ (d.length < 2 ^ 64 → info.totalSize < 2 ^ 64) := by
  have := (C12_obu_header_bound_tight h).2
  constructor <;> intro hd <;> omega

/-- protects `self.pos + info.total_size > self.data.len()` in `ObuIter::next` (av1.rs): with
    `pos ≤ len` the sum is at most `max len (pos + 2^56 + 9)`, i.e. `< 2^64` whenever
    `len < 2^63` (slices never exceed `isize::MAX` bytes). -/
theorem C12_obus_pos_bound {d : Bytes} {pos : Nat} {info : ObuInfo} (hpos : pos ≤ d.length)
    (h : parseObuHeader (d.drop pos) = some info) :
    pos + info.totalSize ≤ max d.length (pos + 2 ^ 56 + 9) ∧
    (d.length < 2 ^ 63 → pos + info.totalSize < 2 ^ 64) := by
  have := (C12_obu_header_bound_tight h).2
  simp only [List.length_drop] at this
  constructor
  · omega
  · intro hd; omega

/-- protects `self.pos += info.total_size` and `&remaining[..info.total_size]` in `ObuIter::next`:
    every yielded OBU is a non-empty slice and together they fit into the input. -/
theorem C12_obus_progress (d : Bytes) :
    ((obus d).map (·.2.length)).sum ≤ d.length ∧ ∀ x ∈ obus d, 1 ≤ x.2.length :=
  obusAux_progress _ d

/-- `ObuIter` yields at most one item per input byte (loop bound of `extract_av1_config` and
    `is_av1_keyframe`). -/
theorem C12_obus_count (d : Bytes) : (obus d).length ≤ d.length := by
  obtain ⟨hsum, h1⟩ := C12_obus_progress d
  exact Nat.le_trans (length_le_sum_map _ _ h1) hsum

/-- `ObuIter` terminates: any fuel `≥ len` gives the same items, i.e. the iteration has reached
    the end of input (or a malformed header) before the model's fuel runs out. -/
theorem C12_obus_fuel_irrelevant (d : Bytes) (fuel : Nat) (h : d.length ≤ fuel) :
    obusAux fuel d = obus d :=
  obusAux_fuel fuel (d.length + 1) d h (by omega)

/-- the yielded OBUs are consecutive slices starting at offset 0 (`pos` only moves forward by the
    size of the slice just yielded): concatenated they are a prefix of the input. -/
theorem C12_obus_concat (d : Bytes) : ((obus d).flatMap (·.2)) <+: d :=
  obusAux_concat _ d

/-! ### VP9: `parse_vp9_var_uint` -/

/-- protects `parse_vp9_var_uint` (vp9.rs): the `u32` accumulator (`value < 2^32`),
    `offset += 1` (strictly forward, never past `data.len()`, at most `fuel` bytes). -/
theorem C12_vp9_varuint_bound {d : Bytes} {fuel off value shift v off' : Nat}
    (h : vp9VarUint d fuel off value shift = some (v, off')) :
    v < 2 ^ 32 ∧ off < off' ∧ off' ≤ d.length ∧ off' ≤ off + fuel := by
  obtain ⟨h1, h2, h3, h4, _⟩ := vp9VarUint_bound d fuel off value shift v off' h
  exact ⟨h1, h2, h3, h4⟩

/-- protects `<< shift` / `shift += 7` in `parse_vp9_var_uint`: started with `shift = 0` (as at
    every call site) the loop reads at most 5 bytes whatever the fuel, so the shift amounts used
    are 0, 7, 14, 21, 28 (`< 32`, no shift overflow). -/
theorem C12_vp9_varuint_five {d : Bytes} {fuel off value v off' : Nat}
    (h : vp9VarUint d fuel off value 0 = some (v, off')) : off' ≤ off + 5 := by
  obtain ⟨_, _, _, _, h5⟩ := vp9VarUint_bound d fuel off value 0 v off' h
  omega

/-- the loop of `parse_vp9_var_uint` has ended before the call sites' fuel 6 runs out: started
    with `shift = 0`, any fuel `≥ 5` gives the same answer. -/
theorem C12_vp9_varuint_fuel_irrelevant (d : Bytes) (fuel off value : Nat) (h : 5 ≤ fuel) :
    vp9VarUint d fuel off value 0 = vp9VarUint d 6 off value 0 := by
  obtain ⟨f, rfl⟩ : ∃ f, fuel = f + 1 := ⟨fuel - 1, by omega⟩
  exact vp9VarUint_fuel d f 5 off value 0 (by omega) (by omega)

/-! ### Opus -/

/-- protects `opus_frame_count` (opus.rs): the count is a `u8` in `1..=63` (`& 0x3F`). -/
theorem C12_opus_count_bound {p : Bytes} {n : Nat} {vbr : Bool}
    (h : opusFrameCount p = some (n, vbr)) : 1 ≤ n ∧ n ≤ 63 := by
  unfold opusFrameCount at h
  match p, h with
  | toc :: rest, h =>
    dsimp only at h
    generalize toc.toNat % 4 = code at h
    match code, rest, h with
    | 0, _, h | 1, _, h | 2, _, h => cases h; decide
    | _ + 3, b :: _, h =>
      obtain ⟨h0, h⟩ := Option.ite_none_left_eq_some.mp h
      cases h; omega

/-- protects `frame_duration.samples() * frame_count as u32` in `opus_packet_samples` (opus.rs):
    the product is between 120 and 2880·63 = 181440 (`< 2^32`). -/
theorem C12_opus_samples_bound {p : Bytes} {s : Nat} (h : opusPacketSamples p = some s) :
    1 ≤ s ∧ 120 ≤ s ∧ s ≤ 2880 * 63 := by
  unfold opusPacketSamples at h
  match p, h with
  | toc :: rest, h =>
    cases hc : opusFrameCount (toc :: rest) with
    | none => rw [hc] at h; cases h
    | some nv =>
      rw [hc] at h
      obtain ⟨hn, h⟩ := Option.ite_none_left_eq_some.mp h
      obtain ⟨_, h⟩ := Option.ite_none_left_eq_some.mp h
      cases h
      obtain ⟨t1, t2⟩ := opusTocSamples_bound toc.toNat
      have a := Nat.mul_le_mul t1 (Decidable.not_not.mp hn).1
      have b := Nat.mul_le_mul t2 (Decidable.not_not.mp hn).2
      omega

/-! ### ADTS -/

/-- protects the 13-bit `aac_frame_length` assembled in `adts_to_raw` (mp4.rs) from
    `((b3 & 3) as usize) << 11 | (b4 as usize) << 3 | (b5 as usize) >> 5`: it is `< 2^13`. -/
theorem C12_adts_length_bound (f : Bytes) :
    adtsFrameLength f < 2 ^ 13 ∧ (adtsHeaderLen f = 7 ∨ adtsHeaderLen f = 9) := by
  constructor
  · have h4 := byteAt_lt f 4
    have h5 := byteAt_lt f 5
    unfold adtsFrameLength
    omega
  · unfold adtsHeaderLen; split <;> simp

/-- protects `&frame[header_len..frame_len]` in `adts_to_raw`: `header_len < frame_len ≤ len`, the
    payload is exactly `frame_len − header_len ≥ 1` bytes (a zero-payload frame is rejected). -/
theorem C12_adts_raw_bound {f raw : Bytes} (h : adtsToRaw f = .ok raw) :
    raw.length + adtsHeaderLen f = adtsFrameLength f ∧ adtsFrameLength f ≤ f.length ∧
    raw.length + adtsHeaderLen f ≤ f.length ∧ raw ≠ [] ∧ raw.length < 2 ^ 13 := by
  have := adtsToRaw_length h
  have := (C12_adts_length_bound f).1
  rw [List.ne_nil_iff_length_pos]
  omega

/-! ### Annex B -/

/-- protects `AnnexBNalIter` (common.rs): every `next` consumes a start code (≥ 3 bytes) plus the
    unit it yields, so the units together with 3 bytes each fit into the input; the iterator
    yields at most `len / 3` units (positions `self.cursor`, `nal_start`, `nal_end` stay `≤ len`). -/
theorem C12_nals_progress (d : Bytes) :
    ((nals d).map (·.length)).sum ≤ d.length ∧ (nals d).length ≤ d.length ∧
    ((nals d).map (·.length)).sum + 3 * (nals d).length ≤ d.length := by
  have := nalsAux_progress (d.length + 1) d
  unfold nals
  omega

/-! ### the bounds are attained -/

/-- the largest LEB128 value the parser accepts: 8 bytes, `2^56 − 1` -/
example : readLeb128 [0xff, 0xff, 0xff, 0xff, 0xff, 0xff, 0xff, 0x7f] = some (2 ^ 56 - 1, 8) := by
  decide

/-- a 9-byte encoding is rejected (only 8 bytes are examined) -/
example : readLeb128 [0x80, 0x80, 0x80, 0x80, 0x80, 0x80, 0x80, 0x80, 0x00] = none := by decide

/-- the largest header: extension byte + 8-byte size field = 10 bytes, payload size `2^56 − 1`,
    `total_size = 2^56 + 9` -/
example : (parseObuHeader [0x0e, 0x00, 0xff, 0xff, 0xff, 0xff, 0xff, 0xff, 0xff, 0x7f]).map
    (fun i => (i.headerSize, i.payloadSize, i.totalSize)) = some (10, 2 ^ 56 - 1, 2 ^ 56 + 9) := by
  decide

/-- VP9: five bytes are accepted (value wraps into 32 bits), a sixth is rejected -/
example : vp9VarUint [0xff, 0xff, 0xff, 0xff, 0x7f] 6 0 0 0 = some (2 ^ 32 - 1, 5) ∧
    vp9VarUint [0xff, 0xff, 0xff, 0xff, 0xff, 0x00] 6 0 0 0 = none := by decide

/-- Opus: 63 frames of 60 ms (config 15, code 3) = 181440 samples; one 2.5 ms frame = 120 -/
example : opusPacketSamples [0x7b, 0x3f] = some (2880 * 63) ∧ opusPacketSamples [0xc0] = some 120 := by
  decide

/-- ADTS: the largest frame-length field is 8191 -/
example : adtsFrameLength [0xff, 0xf1, 0x50, 0x83, 0xff, 0xff, 0xfc] = 2 ^ 13 - 1 := by decide

/-- Annex B: `00 00 01 xx` yields one unit of one byte: 1 + 3·1 = 4 = len -/
example : nals [0, 0, 1, 9] = [[9]] := by decide

/-- OBU iterator: `12 00 | 0A 01 55` — two items covering the whole input (sum of sizes = len);
    one-byte OBUs without size field attain `count = len` only for `len = 1` (`[0x10]`) -/
example : ((obus [0x12, 0x00, 0x0A, 0x01, 0x55]).map (·.2.length)) = [2, 3] ∧
    (obus [0x10]).length = 1 ∧ obusAux 5 [0x12, 0x00, 0x0A, 0x01, 0x55] = obus [0x12, 0x00, 0x0A, 0x01, 0x55] := by
  decide

end Muxide.Props.C12Parsers
