import Muxide.Lemmas.Av1
/-
  C07 (AV1 part) — the sequence-header parser recovers the fields of EVERY syntactically valid
  `sequence_header_obu()`.

  `Muxide.Spec.Av1Syntax.encodeSeqHdr` is the syntax table of the AV1 specification written as an
  encoder; `SeqHdr.WF` states the value ranges and the inferred values of uncoded elements.
  * `C07_av1_roundtrip`: for every well-formed non-monochrome header (reduced or not; with or
    without timing info, equal-picture-interval `uvlc()`, decoder model, per-operating-point
    decoder-model / display-delay parameters, 1..32 operating points, frame ids, order hint,
    screen-content / integer-mv elements, every `color_config()` branch incl. sRGB and the
    profile-2 12-bit subsampling bits), followed by arbitrary bits, the parser returns exactly
    (seq_profile, seq_level_idx[0], seq_tier[0], colour configuration).
  * monochrome is a DEVIATION of the code: it reads a 2-bit `chroma_sample_position` that the
    syntax does not contain (`C07_av1_mono_partial`, `C07_av1_mono_short`,
    `C07_av1_mono_trailing`, `C07_av1_mono_counterexample`).
-/
namespace Muxide.Props.C07
open Muxide Muxide.Spec.Av1 Muxide.Av1Lemmas

/-- round trip without any assumption on `seq_profile` beyond its 3-bit range (profiles 3..7 are
    reserved; the syntax and the parser treat them like the `else` branch, i.e. like profile 2
    without `twelve_bit`) -/
theorem C07_av1_roundtrip_all_profiles (s : SeqHdr) (pad : List Bool) (h : s.WF)
    (hm : ¬ s.monochrome) :
    parseSeqHdrBits true (encodeSeqHdr s ++ pad) = some s.fields := by
  rw [parseSeqHdrBits_encode s h, if_neg hm]

/-- **C07 (AV1 round trip)**: every syntactically valid non-monochrome sequence header, followed
    by arbitrary trailing bits, is parsed to exactly its profile, first operating point's level
    and tier, and colour configuration. -/
theorem C07_av1_roundtrip (s : SeqHdr) (pad : List Bool) (h : s.WF) (_hp : s.seqProfile ≤ 2)
    (hm : ¬ s.monochrome) :
    parseSeqHdrBits true (encodeSeqHdr s ++ pad) = some s.fields :=
  C07_av1_roundtrip_all_profiles s pad h hm

/-- what the code returns for a monochrome header: everything as in the header except that `csp`
    is made of the two bits FOLLOWING `color_range` -/
def monoFields (s : SeqHdr) (b : Bool) : Nat × Nat × Nat × ColorCfg :=
  (s.seqProfile, s.seqLevelIdx0, s.seqTier0,
   { s.color.toCfg with csp := 2 * b2n s.filmGrainParamsPresent + b2n b })

/-- **monochrome (known deviation)**: provided at least two more bits follow the header, the parser
    returns the header's profile / level / tier / bit depth / mono / subsampling, but `csp` is
    `film_grain_params_present` and the first padding bit instead of 0. -/
theorem C07_av1_mono_partial (s : SeqHdr) (b0 b1 : Bool) (pad : List Bool) (h : s.WF)
    (hm : s.monochrome) :
    parseSeqHdrBits true (encodeSeqHdr s ++ b0 :: b1 :: pad) = some (monoFields s b0) := by
  rw [parseSeqHdrBits_encode s h, if_pos hm]
  rfl

/-- monochrome, fewer than two bits after the header: the parser fails (the syntax is complete) -/
theorem C07_av1_mono_short (s : SeqHdr) (pad : List Bool) (h : s.WF) (hm : s.monochrome)
    (hp : pad.length < 2) :
    parseSeqHdrBits true (encodeSeqHdr s ++ pad) = none := by
  rw [parseSeqHdrBits_encode s h, if_pos hm]
  match pad, hp with
  | [], _ => rfl
  | [_], _ => rfl

/-- in an OBU the header is followed by `trailing_bits()` = a one bit and zero bits: for EVERY
    well-formed monochrome header the code then reports `chroma_sample_position` 1 or 3, never
    the 0 (`CSP_UNKNOWN`) the specification prescribes -/
theorem C07_av1_mono_trailing (s : SeqHdr) (b1 : Bool) (pad : List Bool) (h : s.WF)
    (hm : s.monochrome) :
    ∃ r, parseSeqHdrBits true (encodeSeqHdr s ++ true :: b1 :: pad) = some r ∧
      r.2.2.2.csp ≠ 0 ∧ s.fields.2.2.2.csp = 0 := by
  refine ⟨monoFields s true, C07_av1_mono_partial s true b1 pad h hm, ?_, ?_⟩
  · simp [monoFields, b2n]
  · have := h.color.2.2.2.2
    simp only [show s.color.monoChrome = true from hm, if_true] at this
    exact this.2.2.1

/-- a concrete monochrome header (8-bit 4:0:0 main profile, level 2.0, 64×64, reduced still
    picture header) -/
def monoExample : SeqHdr where
  seqProfile := 0
  stillPicture := true
  reducedStillPictureHeader := true
  timing := none
  decoderModel := none
  initialDisplayDelayPresentFlag := false
  opPoints := [⟨0, 0, false, none, none⟩]
  frameWidthBitsMinus1 := 5
  frameHeightBitsMinus1 := 5
  maxFrameWidthMinus1 := 63
  maxFrameHeightMinus1 := 63
  frameId := none
  use128x128Superblock := false
  enableFilterIntra := false
  enableIntraEdgeFilter := false
  enableInterintraCompound := false
  enableMaskedCompound := false
  enableWarpedMotion := false
  enableDualFilter := false
  orderHint := none
  seqChooseScreenContentTools := false
  seqForceScreenContentTools := 2
  seqChooseIntegerMv := false
  seqForceIntegerMv := 2
  enableSuperres := false
  enableCdef := false
  enableRestoration := false
  color := ⟨false, false, true, none, false, true, true, 0, false⟩
  filmGrainParamsPresent := false

/-- **counterexample to the full round trip**: a well-formed monochrome header followed by
    `trailing_bits()` (`1 0 0 …`) on which the parser reports `chroma_sample_position = 1`
    although the header's value is 0 -/
theorem C07_av1_mono_counterexample :
    monoExample.WF ∧ monoExample.monochrome = true ∧
    (parseSeqHdrBits true (encodeSeqHdr monoExample ++ [true, false, false])).map (·.2.2.2.csp)
      = some 1 ∧
    monoExample.fields.2.2.2.csp = 0 := by
  decide +kernel

/-! ### `uvlc()` outside the well-formed range (32 or more leading zeros, value 2^32 − 1) -/

/-- 32 leading zeros: the syntax has no value bits and the code reads none, so the rest of the header is
    read in place (before the repair in /repo the code skipped 32 further bits: found by the certified
    reader of Spec.Av1Decode through C19's av1C-vs-configOBUs facet) -/
theorem C07_av1_uvlc_z32 (x : Nat) (rest : Bits) :
    skipUvlc (encodeUvlc ⟨32, x⟩ ++ rest) = some rest ∧ encodeUvlc ⟨32, x⟩ =
      List.replicate 32 false ++ [true] := by
  refine ⟨skipUvlc_z32 x rest, ?_⟩
  simp [encodeUvlc]

/-- 33 or more leading zeros: the code rejects -/
theorem C07_av1_uvlc_z33 (z x : Nat) (hz : 33 ≤ z) (rest : Bits) :
    skipUvlc (encodeUvlc ⟨z, x⟩ ++ rest) = none := by
  rw [skipUvlc_encodeUvlc, if_neg (by simp only; omega)]

/-! ### the hypotheses are satisfiable; the encoder reproduces a real sequence header -/

/-- a header exercising most optional parts: timing with `uvlc()`, decoder model, two operating
    points (one with tier, operating parameters and display delay), frame ids, order hint -/
def fullExample : SeqHdr where
  seqProfile := 2
  stillPicture := false
  reducedStillPictureHeader := false
  timing := some ⟨1, 30, some ⟨3, 5⟩⟩
  decoderModel := some ⟨9, 7, 3, 4⟩
  initialDisplayDelayPresentFlag := true
  opPoints := [⟨0x101, 9, true, some ⟨5, 6, true⟩, some 3⟩, ⟨1, 4, false, none, none⟩]
  frameWidthBitsMinus1 := 10
  frameHeightBitsMinus1 := 10
  maxFrameWidthMinus1 := 1919
  maxFrameHeightMinus1 := 1079
  frameId := some ⟨3, 2⟩
  use128x128Superblock := true
  enableFilterIntra := true
  enableIntraEdgeFilter := false
  enableInterintraCompound := true
  enableMaskedCompound := false
  enableWarpedMotion := true
  enableDualFilter := false
  orderHint := some ⟨true, false, 6⟩
  seqChooseScreenContentTools := false
  seqForceScreenContentTools := 1
  seqChooseIntegerMv := false
  seqForceIntegerMv := 1
  enableSuperres := false
  enableCdef := true
  enableRestoration := true
  color := ⟨true, true, false, some ⟨9, 16, 9⟩, false, true, true, 2, true⟩
  filmGrainParamsPresent := true

example : fullExample.WF ∧ fullExample.seqProfile ≤ 2 ∧ ¬ fullExample.monochrome := by decide

set_option maxRecDepth 8000 in
example : parseSeqHdrBits true (encodeSeqHdr fullExample ++ [true, false]) =
    some (2, 9, 1, ⟨true, true, false, true, true, 2⟩) := by decide +kernel

/-- the sequence header `00 00 00 24 CF 7F 0D BF FF 30 08` (main profile, level 3.0, 960×540,
    8-bit 4:2:0), decoded by hand from the syntax tables -/
def realExample : SeqHdr where
  seqProfile := 0
  stillPicture := false
  reducedStillPictureHeader := false
  timing := none
  decoderModel := none
  initialDisplayDelayPresentFlag := false
  opPoints := [⟨0, 4, false, none, none⟩]
  frameWidthBitsMinus1 := 9
  frameHeightBitsMinus1 := 9
  maxFrameWidthMinus1 := 959
  maxFrameHeightMinus1 := 539
  frameId := none
  use128x128Superblock := true
  enableFilterIntra := true
  enableIntraEdgeFilter := true
  enableInterintraCompound := true
  enableMaskedCompound := true
  enableWarpedMotion := true
  enableDualFilter := true
  orderHint := some ⟨true, true, 6⟩
  seqChooseScreenContentTools := true
  seqForceScreenContentTools := 2
  seqChooseIntegerMv := true
  seqForceIntegerMv := 2
  enableSuperres := false
  enableCdef := true
  enableRestoration := true
  color := ⟨false, false, false, none, false, true, true, 0, false⟩
  filmGrainParamsPresent := false

/-- the syntax encoder reproduces those bytes bit for bit (followed by `trailing_bits()`) -/
example : realExample.WF ∧
    bitsOf [0x00, 0x00, 0x00, 0x24, 0xCF, 0x7F, 0x0D, 0xBF, 0xFF, 0x30, 0x08]
      = encodeSeqHdr realExample ++ [true, false, false, false] := by decide +kernel

/-! ### byte level: `parse_sequence_header` -/

theorem rbits3_encode (s : SeqHdr) (h : s.WF) (pad : Bits) :
    ∃ r, rbits 3 (encodeSeqHdr s ++ pad) = some (s.seqProfile, r) := by
  unfold encodeSeqHdr
  simp only [List.append_assoc]
  exact ⟨_, rbits_natToBits 3 _ h.1 _⟩

theorem bitsOf_ne_nil {d : Bytes} (h : d ≠ []) : bitsOf d ≠ [] := by
  cases d with
  | nil => exact absurd rfl h
  | cons b d => simp [bitsOf, byteBits]

/-- **C07 at the OBU level**: if the payload of a sequence-header OBU (`hs` = OBU header size) is
    the encoding of a well-formed non-monochrome header of profile ≤ 3 followed by any trailing
    bits, `parse_sequence_header` returns the configuration with exactly the header's fields and
    the OBU bytes. -/
theorem C07_av1_parseSequenceHeader (s : SeqHdr) (pad : List Bool) (obu : Bytes) (hs : Nat)
    (h : s.WF) (hp : s.seqProfile ≤ 3) (hm : ¬ s.monochrome)
    (hb : bitsOf (obu.drop hs) = encodeSeqHdr s ++ pad) :
    parseSequenceHeader obu hs =
      .some ⟨obu, s.seqProfile, s.seqLevelIdx0, s.seqTier0, s.color.highBitdepth, s.color.twelveBit,
             s.color.monoChrome, s.color.subsamplingX, s.color.subsamplingY,
             s.color.chromaSamplePosition⟩ := by
  obtain ⟨r, hr⟩ := rbits3_encode s h pad
  have hne : obu.drop hs ≠ [] := by
    intro h0
    rw [← hb, h0] at hr
    simp [bitsOf, rbits, rbit] at hr
  have hrt := C07_av1_roundtrip_all_profiles s pad h hm
  unfold parseSequenceHeader
  simp only [hne, if_false, hb, hr, av1FixedDmi, hrt, SeqHdr.fields]
  have : ¬ s.seqProfile > 3 := by omega
  simp [this, ColorConfig.toCfg]

/-! ### OBU framing -/

/-- `read_leb128` decodes every 1..8-byte `leb128()` — minimal or padded — to its value and
    byte count -/
theorem C07_av1_readLeb128 (gs : List Nat) (h : LebWF gs) (rest : Bytes) :
    readLeb128 (lebBytes gs ++ rest) = some (lebValue gs, gs.length) :=
  readLeb128_lebBytes gs h rest

/-- … in particular the minimal encoding of every `n < 2^56` -/
theorem C07_av1_readLeb128_minimal (n : Nat) (h : n < 2 ^ 56) (rest : Bytes) :
    readLeb128 (leb128 n ++ rest) = some (n, (leb128 n).length) := by
  rw [leb128, lebBytes_length, readLeb128_lebBytes _ (lebWF_leb128Groups n h), lebValue_leb128Groups]

/-- a padded (non-minimal) 8-byte encoding of 11 -/
example : readLeb128 (lebBytes [11, 0, 0, 0, 0, 0, 0, 0] ++ [7]) = some (11, 8) := by decide

/-- `parse_obu_header` on `header byte ++ extension? ++ leb128 size ++ payload ++ anything`
    returns the type, the extension flag, the header size (incl. the size field) and the payload
    size -/
theorem C07_av1_obu_header (o : Obu) (h : o.WF) (post : Bytes) :
    parseObuHeader (o.bytes ++ post)
      = some ⟨o.obuType, o.extension.isSome, o.headerSize, o.payload.length⟩ :=
  parseObuHeader_obu o h post

/-- **C07 at the sample level**: in `OBUs that are not sequence headers (e.g. a temporal
    delimiter) ++ sequence header OBU ++ arbitrary bytes (frame OBUs)`, `extract_av1_config`
    returns the fields of the FIRST sequence header, with `sequence_header` = exactly that OBU's
    bytes (header, extension, size field and payload). -/
theorem C07_av1_extract (pre : List Obu) (sh : Obu) (post : Bytes) (s : SeqHdr) (pad : List Bool)
    (hpre : ∀ o ∈ pre, o.WF ∧ o.obuType ≠ 1) (hsh : sh.WF) (ht : sh.obuType = 1)
    (hb : bitsOf sh.payload = encodeSeqHdr s ++ pad)
    (h : s.WF) (hp : s.seqProfile ≤ 3) (hm : ¬ s.monochrome) :
    extractAv1 (pre.flatMap Obu.bytes ++ sh.bytes ++ post) =
      .some ⟨sh.bytes, s.seqProfile, s.seqLevelIdx0, s.seqTier0, s.color.highBitdepth,
             s.color.twelveBit, s.color.monoChrome, s.color.subsamplingX, s.color.subsamplingY,
             s.color.chromaSamplePosition⟩ := by
  rw [extractAv1_obus pre sh post hpre hsh ht]
  exact C07_av1_parseSequenceHeader s pad sh.bytes sh.headerSize h hp hm
    (by rw [obu_bytes_drop]; exact hb)

/-- the hypotheses of `C07_av1_extract` on a real temporal unit prefix: temporal delimiter
    `12 00`, then the sequence header OBU `0A 0B 00 00 00 24 CF 7F 0D BF FF 30 08` -/
def tdObu : Obu := ⟨2, none, false, [0], []⟩
def shObu : Obu :=
  ⟨1, none, false, [11], [0x00, 0x00, 0x00, 0x24, 0xCF, 0x7F, 0x0D, 0xBF, 0xFF, 0x30, 0x08]⟩

example :
    (∀ o ∈ [tdObu], o.WF ∧ o.obuType ≠ 1) ∧ shObu.WF ∧ shObu.obuType = 1 ∧
    bitsOf shObu.payload = encodeSeqHdr realExample ++ [true, false, false, false] ∧
    realExample.WF ∧ realExample.seqProfile ≤ 3 ∧ ¬ realExample.monochrome ∧
    [tdObu].flatMap Obu.bytes ++ shObu.bytes =
      [0x12, 0x00, 0x0A, 0x0B, 0x00, 0x00, 0x00, 0x24, 0xCF, 0x7F, 0x0D, 0xBF, 0xFF, 0x30, 0x08] := by
  decide +kernel

end Muxide.Props.C07
