import Muxide.Lemmas.Meta
import Muxide.Lemmas.Date
/-
  C18 — Metadata is written so that it can be recovered: title (iTunes-style name item under
  moov/udta/meta/ilst), creation time (ISO-8601 UTC date-time), language (packed into every
  track's media header). Helper lemmas live in Muxide/Lemmas/Date.lean
  and Muxide/Lemmas/Meta.lean.
-/
namespace Muxide.Props.C18
open Muxide Muxide.Spec Box

/-! ### 1. calendar date -/

/-- For EVERY number of days since 1970-01-01 the year/month loops of the muxer return a valid
    civil date whose day number — by summation over the preceding years and months, the
    definition of the calendar — is the input. In particular the loop fuel always suffices. -/
theorem C18_date : ∀ days : Nat,
    let (y, m, d) := daysToYmd days
    validCivil y m d = true ∧ daysFromCivil y m d = days := by
  intro days
  have h := daysToYmd_spec days
  -- on a variable triple the `let (y, m, d) := …` of the statement reduces; on `daysToYmd days` the
  -- check would run the loops
  generalize daysToYmd days = t at h ⊢
  exact h

/-- The closed form the C18 oracle of the check driver evaluates (`Driver/Hist.lean`; years of any size) is the calendar's definition by summation. -/
theorem C18_daysFromCivil_closed (y m d : Nat) (hy : 1970 ≤ y) : daysFromCivilClosed y m d = daysFromCivil y m d := by
  have h := yearSum_closed y hy
  rw [daysFromCivil_eq]
  unfold daysFromCivilClosed monthSum
  unfold leapsUpTo at h
  omega

/-! ### 2. time of day -/

/-- The four printed quantities (day number, hour, minute, second) denote `secs`, and the
    time-of-day fields are in range. -/
theorem C18_time_of_day : ∀ secs : Nat,
    secs = (secs / 86400) * 86400 + (secs % 86400 / 3600) * 3600 + (secs % 3600 / 60) * 60 + secs % 60 ∧
    secs % 86400 / 3600 < 24 ∧ secs % 3600 / 60 < 60 ∧ secs % 60 < 60 := by
  intro secs
  refine ⟨?_, Nat.div_lt_of_lt_mul (Nat.mod_lt _ (by decide)),
    Nat.div_lt_of_lt_mul (Nat.mod_lt _ (by decide)), Nat.mod_lt _ (by decide)⟩
  -- fold the seconds into `secs % 3600`, that into `secs % 86400`, that into `secs`
  rw [Nat.add_assoc, Nat.add_assoc, ← mod3600_mod60 secs, ← split60, ← mod86400_mod3600, ← split3600,
    Nat.div_add_mod']

/-! ### 3. the printed text -/

/-- `YYYY-MM-DDTHH:MM:SSZ` with the fields of 1 and 2 (45 = '-', 84 = 'T', 58 = ':', 90 = 'Z'). -/
theorem C18_format : ∀ secs : Nat,
    formatTimestamp secs =
      padNum 4 (daysToYmd (secs / 86400)).1 ++ [45] ++ padNum 2 (daysToYmd (secs / 86400)).2.1 ++ [45] ++
      padNum 2 (daysToYmd (secs / 86400)).2.2 ++ [84] ++
      padNum 2 (secs % 86400 / 3600) ++ [58] ++ padNum 2 (secs % 3600 / 60) ++ [58] ++
      padNum 2 (secs % 60) ++ [90] := by
  intro secs
  have e2 : secs % 86400 % 60 = secs % 60 := Nat.mod_mod_of_dvd secs (by decide)
  simp only [formatTimestamp, mod86400_mod3600, e2]
  generalize daysToYmd (secs / 86400) = t
  rfl

/-- a zero-padded field of width `w` has exactly `w` bytes when the number fits -/
theorem padNum_length : ∀ w n : Nat, 0 < w → n < 10 ^ w → (padNum w n).length = w :=
  Muxide.padNum_length

/-- a zero-padded field consists of ASCII digits and its decimal value is the number -/
theorem padNum_value : ∀ w n : Nat,
    decValue (padNum w n) = n ∧ ∀ b ∈ padNum w n, 48 ≤ b.toNat ∧ b.toNat ≤ 57 :=
  Muxide.padNum_value

/-- the month and day fields always fit in two digits -/
theorem C18_md_lt (days : Nat) : (daysToYmd days).2.1 < 100 ∧ (daysToYmd days).2.2 < 100 := by
  have h := (daysToYmd_spec days).1
  simp only [validCivil, decide_eq_true_eq] at h
  obtain ⟨_, _, hm, _, hd⟩ := h
  have : daysInMonth (daysToYmd days).1 (daysToYmd days).2.1 ≤ 31 := by
    unfold daysInMonth; split
    · split <;> omega
    · split <;> omega
  omega

/-- The text is exactly 20 bytes long whenever the year has at most four digits. -/
theorem C18_format_length (secs : Nat) (hy : (daysToYmd (secs / 86400)).1 < 10000) :
    (formatTimestamp secs).length = 20 := by
  have hmd := C18_md_lt (secs / 86400)
  obtain ⟨_, hh, hm, hs⟩ := C18_time_of_day secs
  have two : ∀ n, n < 100 → (padNum 2 n).length = 2 := fun n h => padNum_length 2 n (by decide) h
  rw [C18_format]
  simp only [List.length_append, List.length_cons, List.length_nil, padNum_length 4 _ (by decide) hy,
    two _ hmd.1, two _ hmd.2, two _ (Nat.lt_trans hh (by decide)), two _ (Nat.lt_trans hm (by decide)),
    two _ (Nat.lt_trans hs (by decide))]

/-- … in particular for every Unix second before 10000-01-01T00:00:00Z. -/
theorem C18_format_length_secs (secs : Nat) (h : secs < 253402300800) :
    (formatTimestamp secs).length = 20 := by
  apply C18_format_length
  rw [daysToYmd_year_lt_iff _ _ (by omega), yearSum_10000]
  omega

/-- the bound is sharp: from 10000-01-01T00:00:00Z on the year needs five digits -/
theorem C18_year_five_digits (secs : Nat) (h : 253402300800 ≤ secs) :
    10000 ≤ (daysToYmd (secs / 86400)).1 := by
  rw [← Nat.not_lt, daysToYmd_year_lt_iff _ _ (by omega), yearSum_10000]
  omega

/-! ### 4. language -/

theorem C18_lang : ∀ a b c : Nat, 97 ≤ a → a ≤ 122 → 97 ≤ b → b ≤ 122 → 97 ≤ c → c ≤ 122 →
    unpackLang (langCode [a, b, c]) = [a, b, c] := by
  intro a b c ha ha' hb hb' hc hc'
  rw [unpack_langCode3, lower_field a ha ha', lower_field b hb hb', lower_field c hc hc']

example : unpackLang (langCode [102, 114, 97]) = [102, 114, 97] :=
  C18_lang 102 114 97 (by omega) (by omega) (by omega) (by omega) (by omega) (by omega)

/-- "und" when no language is configured -/
theorem C18_lang_default : unpackLang (langCode [117, 110, 100]) = [117, 110, 100] :=
  C18_lang 117 110 100 (by omega) (by omega) (by omega) (by omega) (by omega) (by omega)

/-- the packed code always fits the 15-bit field (so the 16-bit write does not truncate) -/
theorem C18_langCode_lt : ∀ cps : List Nat, langCode cps < 2 ^ 15 := langCode_lt

/-- the media header stores the packed code at payload offset 20 -/
theorem C18_mdhd_lang (ts dur : Nat) (lang : Option (List Nat)) :
    ((bMdhd ts dur lang).pre.drop 20).take 2 = u16be (langCode (lang.getD [117, 110, 100])) := by
  rw [mdhd_drop20]; rfl

/-- … and reading the 16-bit field there gives the packed code back -/
theorem C18_mdhd_read (ts dur : Nat) (lang : Option (List Nat)) :
    ∃ rest, readU16 ((bMdhd ts dur lang).pre.drop 20) = some (langCode (lang.getD [117, 110, 100]), rest) := by
  rw [mdhd_drop20]
  exact ⟨_, readU16_u16be _ (Nat.lt_trans (langCode_lt _) (by omega)) _⟩

/-- every track's media box starts with the media header built from the configured language -/
theorem C18_trak_mdhd (width height : Nat) (t : Tables) (vc : VideoConfig) (a : AudioTrack)
    (lang : Option (List Nat)) :
    (∃ tk rest, bVideoTrak width height t vc lang =
        node "trak" [] [tk, node "mdia" [] (bMdhd 90000 t.totalDuration lang :: rest)]) ∧
    (∃ tk rest, bAudioTrak a t lang =
        node "trak" [] [tk, node "mdia" [] (bMdhd 90000 t.totalDuration lang :: rest)]) :=
  ⟨⟨_, _, rfl⟩, ⟨_, _, rfl⟩⟩

/-! ### 5. user data -/

/-- the `ilst` items written for a metadata record: one name item iff a title is configured,
    then one day item iff a creation time is configured; nothing else -/
def items (m : Metadata) : List Box :=
  (match m.title with
    | some t => [Box.mk namType [] [leaf "data" ([0, 0, 0, 1, 0, 0, 0, 0] ++ t)]]
    | none => []) ++
  (match m.ctime with
    | some c => [Box.mk dayType [] [leaf "data" ([0, 0, 0, 1, 0, 0, 0, 0] ++ formatTimestamp c)]]
    | none => [])

theorem C18_udta_none (m : Metadata) : bUdta m = none ↔ (m.title = none ∧ m.ctime = none) := by
  unfold bUdta
  cases m.title <;> cases m.ctime <;> simp

theorem C18_udta_some (m : Metadata) (h : m.title ≠ none ∨ m.ctime ≠ none) :
    bUdta m = some (node "udta" [] [node "meta" (zeros 4) [bMetaHdlr, node "ilst" [] (items m)]]) := by
  unfold bUdta items
  cases ht : m.title <;> cases hc : m.ctime <;> simp_all [bIlstItem]

/-- explicit item lists in the four cases -/
theorem C18_items_cases (m : Metadata) :
    items m =
      match m.title, m.ctime with
      | none, none => []
      | some t, none => [Box.mk namType [] [leaf "data" ([0, 0, 0, 1, 0, 0, 0, 0] ++ t)]]
      | none, some c => [Box.mk dayType [] [leaf "data" ([0, 0, 0, 1, 0, 0, 0, 0] ++ formatTimestamp c)]]
      | some t, some c => [Box.mk namType [] [leaf "data" ([0, 0, 0, 1, 0, 0, 0, 0] ++ t)],
                           Box.mk dayType [] [leaf "data" ([0, 0, 0, 1, 0, 0, 0, 0] ++ formatTimestamp c)]] := by
  unfold items
  cases m.title <;> cases m.ctime <;> rfl

/-- exactly one name item, carrying the exact title bytes, iff a title is configured -/
theorem C18_title_item (m : Metadata) :
    (items m).filter (fun b => b.typ = namType) =
      match m.title with
      | some t => [Box.mk namType [] [leaf "data" ([0, 0, 0, 1, 0, 0, 0, 0] ++ t)]]
      | none => [] := by
  unfold items
  cases m.title <;> cases m.ctime <;> rfl

/-- exactly one day item, carrying the formatted creation time, iff one is configured -/
theorem C18_day_item (m : Metadata) :
    (items m).filter (fun b => b.typ = dayType) =
      match m.ctime with
      | some c => [Box.mk dayType [] [leaf "data" ([0, 0, 0, 1, 0, 0, 0, 0] ++ formatTimestamp c)]]
      | none => [] := by
  unfold items
  cases m.title <;> cases m.ctime <;> rfl

/-- no other items -/
theorem C18_no_other_items (m : Metadata) : ∀ b ∈ items m, b.typ = namType ∨ b.typ = dayType := by
  unfold items
  cases m.title <;> cases m.ctime <;> simp [Box.typ]

/-! ### 6. where it sits in the movie box -/

theorem C18_moov_udta (width height : Nat) (vt : Tables) (audio : Option (AudioTrack × Tables))
    (vc : VideoConfig) (md : Option Metadata) :
    bMoov width height vt audio vc md =
      node "moov" []
        ([bMvhd (max (toMs vt.totalDuration) ((audio.map fun p => toMs p.2.totalDuration).getD 0))
            (if audio.isSome then 3 else 2),
          bVideoTrak width height vt vc (md.bind (·.language))] ++
        (audio.map fun p => bAudioTrak p.1 p.2 (md.bind (·.language))).toList ++
        (md.bind bUdta).toList) := by
  unfold bMoov
  cases audio <;> cases md.bind bUdta <;> rfl

/-- without metadata, or with neither title nor creation time, the movie box has no user data -/
theorem C18_moov_no_udta (md : Option Metadata)
    (h : md = none ∨ ∃ m, md = some m ∧ m.title = none ∧ m.ctime = none) :
    (md.bind bUdta).toList = [] := by
  rcases h with rfl | ⟨m, rfl, ht, hc⟩
  · rfl
  · have := (C18_udta_none m).2 ⟨ht, hc⟩
    simp [this]

/-- with a title or a creation time, the user-data box is the last child -/
theorem C18_moov_has_udta (m : Metadata) (h : m.title ≠ none ∨ m.ctime ≠ none) :
    ((some m).bind bUdta).toList =
      [node "udta" [] [node "meta" (zeros 4) [bMetaHdlr, node "ilst" [] (items m)]]] := by
  simp [C18_udta_some m h]

end Muxide.Props.C18

