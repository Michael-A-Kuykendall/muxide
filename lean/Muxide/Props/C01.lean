import Muxide.Lemmas.Offsets
/-
  C01 (placement part) — reading each track's sample tables yields, in submission order, exactly
  one sample per accepted frame whose bytes equal that frame's payload; all sample byte ranges lie
  inside the media-data box, are pairwise disjoint and together cover its payload exactly.

  `schedule`, `entData`, `entSize`, `assignOffsets` are the model's (Muxide/Model/Mp4.lean);
  `walkChunks` and `slice` are the independent reader's (Muxide/Spec/Reader.lean).
  Helper lemmas live in Muxide/Lemmas/Offsets.lean, Schedule.lean.
-/
namespace Muxide.Props.C01
open Muxide Muxide.Spec

/-- The cursor walk: the offset assigned to the j-th schedule entry is
    `start + Σ_{i<j} step sched[i]`; the video vector lists the offsets of the kind-0 entries in
    schedule order and the audio vector those of the other entries. -/
theorem assignOffsets_spec (step : Ent → Nat) (sched : List Ent) (start : Nat) :
    let offs := (List.range sched.length).map fun j => start + ((sched.take j).map step).sum
    (assignOffsets step sched start).1 = ((sched.zip offs).filter (fun p => p.1.kind = 0)).map (·.2) ∧
    (assignOffsets step sched start).2 = ((sched.zip offs).filter (fun p => ¬ p.1.kind = 0)).map (·.2) ∧
    (assignOffsets step sched start).1.length = (sched.filter (fun e => e.kind = 0)).length ∧
    (assignOffsets step sched start).2.length = (sched.filter (fun e => ¬ e.kind = 0)).length := by
  intro offs
  have ho : offs = cursors step sched start := (cursors_eq_range step sched start).symm
  obtain ⟨l1, l2⟩ := assignOffsets_length step sched start
  rw [l1, l2, assignOffsets_eq, ho]
  simp

/-- the offsets of the model for media data that starts at file position `start` -/
abbrev videoOffsets (vs aus : List Sample) (start : Nat) : List Nat :=
  (assignOffsets (entSize vs aus) (schedule vs aus) start).1
abbrev audioOffsets (vs aus : List Sample) (start : Nat) : List Nat :=
  (assignOffsets (entSize vs aus) (schedule vs aus) start).2
/-- the media data: the frames in schedule order -/
abbrev mediaData (vs aus : List Sample) : Bytes :=
  ((schedule vs aus).map (entData vs aus)).flatten

/-- Every table entry i points at frame i's bytes: in any file in which the media data is
    preceded by `pre.length` bytes (the value the cursor starts from), the i-th video chunk offset
    with the i-th video sample size is exactly the i-th video frame's payload, likewise audio;
    and there is exactly one offset per frame. -/
theorem C01_av_resolves (vs aus : List Sample) (pre post : Bytes)
    (hv : vs.Pairwise (fun a b => a.dts < b.dts)) (ha : aus.Pairwise (fun a b => a.dts ≤ b.dts)) :
    let file := pre ++ mediaData vs aus ++ post
    let vo := videoOffsets vs aus pre.length
    let ao := audioOffsets vs aus pre.length
    vo.length = vs.length ∧ ao.length = aus.length ∧
    (∀ i (hi : i < vs.length) (h' : i < vo.length), slice file vo[i] vs[i].data.length = vs[i].data) ∧
    (∀ i (hi : i < aus.length) (h' : i < ao.length), slice file ao[i] aus[i].data.length = aus[i].data) := by
  intro file vo ao
  obtain ⟨lv, la⟩ := schedule_offsets_length (entSize vs aus) vs aus pre.length
  obtain ⟨sv, sa⟩ := assignOffsets_slices vs aus pre post (pairwise_lt_le hv) ha
  refine ⟨lv, la, fun i hi h' => ?_, fun i hi h' => ?_⟩
  · have h := List.getElem_of_eq sv (i := i) (by simpa [lv] using hi)
    simpa only [List.getElem_map, List.getElem_zip] using h
  · have h := List.getElem_of_eq sa (i := i) (by simpa [la] using hi)
    simpa only [List.getElem_map, List.getElem_zip] using h

/-- The sample ranges (chunk offset, sample size) of both tracks are, up to order, exactly the
    consecutive pieces of the media data: there is an arrangement `P` of them in which piece j
    starts at `start + Σ_{i<j} |P_i|`. Hence they are pairwise disjoint, lie inside
    `[start, start + |data|)`, and their sizes add up to `|data|` — they tile the mdat payload. -/
theorem C01_tiling (vs aus : List Sample) (start : Nat)
    (hv : vs.Pairwise (fun a b => a.dts < b.dts)) (ha : aus.Pairwise (fun a b => a.dts ≤ b.dts)) :
    let ranges := List.zip (videoOffsets vs aus start) (vs.map (·.data.length)) ++
                  List.zip (audioOffsets vs aus start) (aus.map (·.data.length))
    let dataLen := (mediaData vs aus).length
    (∃ P : List (Nat × Nat), ranges.Perm P ∧
        ∀ j (h : j < P.length), P[j].1 = start + ((P.take j).map (·.2)).sum) ∧
    ranges.Pairwise (fun a b => a.1 + a.2 ≤ b.1 ∨ b.1 + b.2 ≤ a.1) ∧
    (∀ r ∈ ranges, start ≤ r.1 ∧ r.1 + r.2 ≤ start + dataLen) ∧
    (ranges.map (·.2)).sum = dataLen := by
  intro ranges dataLen
  have hperm : ranges.Perm (pieces (entSize vs aus) (schedule vs aus) start) := by
    simp only [ranges, videoOffsets, audioOffsets]
    rw [assignOffsets_eq]
    simp only []
    rw [track_ranges_eq vs aus _ start (fun e => decide (e.kind = 0)) 0 vs
          (schedule_filter_video vs aus (pairwise_lt_le hv)) (entsOf_map_entSize_video vs aus),
        track_ranges_eq vs aus _ start (fun e => !decide (e.kind = 0)) 1 aus
          ((schedule_filter_not_video vs aus).trans (schedule_filter_audio vs aus ha))
          (entsOf_map_entSize_audio vs aus),
        ← List.map_append, ← zip_map_pieces]
    exact (List.filter_append_perm _ _).map _
  have hlen : dataLen = ((schedule vs aus).map (entSize vs aus)).sum := entData_flatten_length vs aus _
  refine ⟨⟨_, hperm, fun j h => pieces_closed _ _ _ j h⟩, ?_, ?_, ?_⟩
  · exact (pieces_disjoint _ _ _).perm hperm.symm (fun h => Or.symm h)
  · intro r hr
    have hr' := hperm.mem_iff.mp hr
    rw [hlen]
    exact ⟨pieces_lower _ _ _ r hr', pieces_upper _ _ _ r hr'⟩
  · rw [(hperm.map (·.2)).sum_nat, pieces_sizes, hlen]

/-- Video-only layout: one chunk holding all n samples (`stsc` = one run with
    samples_per_chunk = n, one chunk offset). The reader's generic chunk walk resolves sample i
    to `off + Σ_{j<i} size_j`. -/
theorem C01_single_chunk (n off : Nat) (sizes : List Nat) (h : sizes.length = n) :
    walkChunks [(1, n, 1)] [off] 1 sizes =
      (List.range n).map fun i => (off + (sizes.take i).sum, sizes.getD i 0) := by
  rw [walkChunks_single_chunk n off sizes (by omega), cursors_eq_range]
  subst h
  apply List.ext_getElem (by simp)
  intro i h1 h2
  have hi : i < sizes.length := by simpa using h2
  simp [hi]

/-- A/V layout: one sample per chunk (`stsc` = one run with samples_per_chunk = 1). The
    reader's generic chunk walk resolves sample i to chunk offset i. -/
theorem C01_one_per_chunk (offs sizes : List Nat) (h : offs.length = sizes.length) :
    walkChunks [(1, 1, 1)] offs 1 sizes = List.zip offs sizes :=
  walkChunks_one_per_chunk offs 1 (Nat.le_refl 1) sizes h

/-- End to end, A/V: walking the tables the model writes (`stsc` [(1,1,1)], `stco` = the model's
    offsets, `stsz` = the payload sizes) and slicing the file yields the frames' payloads, in
    submission order, one per frame. -/
theorem C01_av_samples (vs aus : List Sample) (pre post : Bytes)
    (hv : vs.Pairwise (fun a b => a.dts < b.dts)) (ha : aus.Pairwise (fun a b => a.dts ≤ b.dts)) :
    let file := pre ++ mediaData vs aus ++ post
    (walkChunks [(1, 1, 1)] (videoOffsets vs aus pre.length) 1 (vs.map (·.data.length))).map
        (fun r => slice file r.1 r.2) = vs.map (·.data) ∧
    (walkChunks [(1, 1, 1)] (audioOffsets vs aus pre.length) 1 (aus.map (·.data.length))).map
        (fun r => slice file r.1 r.2) = aus.map (·.data) := by
  intro file
  obtain ⟨lv, la⟩ := schedule_offsets_length (entSize vs aus) vs aus pre.length
  rw [C01_one_per_chunk _ _ (by simpa using lv), C01_one_per_chunk _ _ (by simpa using la)]
  exact assignOffsets_slices vs aus pre post (pairwise_lt_le hv) ha

/-- End to end, video only: the media data is the frames in order, the single chunk offset is the
    position of the media data; the chunk walk and slicing yield the frames' payloads in order. -/
theorem C01_video_only_samples (vs : List Sample) (pre post : Bytes) :
    let file := pre ++ (vs.map (·.data)).flatten ++ post
    (walkChunks [(1, vs.length, 1)] [pre.length] 1 (vs.map (·.data.length))).map
        (fun r => slice file r.1 r.2) = vs.map (·.data) := by
  intro file
  rw [walkChunks_single_chunk _ _ _ (by simp), cursors_map]
  -- every sample is selected
  have h := slice_selected (·.data) vs pre post (fun _ => true)
  rwa [List.filter_eq_self.mpr fun _ _ => rfl, List.filter_eq_self.mpr fun _ _ => rfl,
    List.map_snd_zip (by simp)] at h

/-- non-vacuity: two video frames (dts 0, 3000) and two audio frames (0, 1000) after a 32-byte
    prefix: storage order V0 A0 A1 V1, video offsets [32, 39], audio offsets [34, 37] -/
example :
    let vs : List Sample := [⟨0, 0, [1, 2], true, none⟩, ⟨3000, 3000, [3], false, none⟩]
    let aus : List Sample := [⟨0, 0, [4, 5, 6], false, none⟩, ⟨1000, 1000, [7, 8], false, none⟩]
    vs.Pairwise (fun a b => a.dts < b.dts) ∧ aus.Pairwise (fun a b => a.dts ≤ b.dts) ∧
    schedule vs aus = [⟨0, 0, 0⟩, ⟨0, 1, 0⟩, ⟨1000, 1, 1⟩, ⟨3000, 0, 1⟩] ∧
    videoOffsets vs aus 32 = [32, 39] ∧ audioOffsets vs aus 32 = [34, 37] := by
  intro vs aus
  have hs : schedule vs aus = [⟨0, 0, 0⟩, ⟨0, 1, 0⟩, ⟨1000, 1, 1⟩, ⟨3000, 0, 1⟩] := by
    apply schedule_unique <;> decide
  refine ⟨by decide, by decide, hs, ?_, ?_⟩
  · simp only [videoOffsets]; rw [hs]; decide
  · simp only [audioOffsets]; rw [hs]; decide

end Muxide.Props.C01
