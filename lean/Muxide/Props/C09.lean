import Muxide.Props.C03
/-
  C09 — audio/video alignment in a finished file with audio.
  Helper lemmas live in Muxide/Lemmas/Timing.lean.

  The model writes no edit list (`C09_no_edit_list`), so both tracks' media timelines start at 0
  of the movie timeline. Presentation times below are the ones a reader derives from the sample
  tables: audio sample k at the sum of the first k stts durations (no ctts on the audio track),
  the first video sample at decode time 0 plus its composition offset. All values are 90 kHz ticks
  (the API applies `F64.ticks` to each absolute timestamp).

  Result: the property as stated is FALSE on the model in general — the file shifts the audio
  track by (first audio timestamp − first video decode timestamp): see `C09_error` and
  `C09_counterexample`. It holds (with error 0) when these two coincide: `C09_partial`.
-/
namespace Muxide.Props.C09
open Muxide

/-- a track box has exactly the children tkhd and mdia: no `edts` -/
theorem C09_no_edit_list (width height : Nat) (t : Tables) (vc : VideoConfig) (a : AudioTrack)
    (lang : Option (List Nat)) :
    (bVideoTrak width height t vc lang).kids.map (·.typ) = [ascii "tkhd", ascii "mdia"] ∧
    (bAudioTrak a t lang).kids.map (·.typ) = [ascii "tkhd", ascii "mdia"] := ⟨rfl, rfl⟩

/-- the audio sample table has no composition-offset table -/
theorem C09_audio_no_ctts (a : AudioTrack) (t : Tables) :
    (bAudioStbl a t).kids.filter (fun b => b.typ = ascii "ctts") = [] := by
  obtain ⟨e1, e2, e3, e4, e5, -⟩ := stbl_types_ne_ctts
  simp [bAudioStbl, node_kids, bStsc_typ, bStsd, bStts, bStsz, bStco, node_typ, leaf_typ, e1, e2, e3, e4, e5]

/-- File timeline. `v0` is the first video sample, `a0` / `ak` the first / k-th audio sample (as
    submitted, in ticks). Hypotheses on `v0` beyond the invariants: u64 timestamps and no overflow
    in the offset computation (true whenever finalize produced a file, see C03; neither is used). -/
theorem C09_timeline (w : Writer) (hv : VInv w) (ha : AInv w) (offs : List Nat) (spc k : Nat)
    (v0 a0 ak : Sample)
    (hv0 : w.vsRev.reverse[0]? = some v0) (ha0 : w.asRev.reverse[0]? = some a0)
    (hak : w.asRev.reverse[k]? = some ak)
    (h64 : v0.pts < 2^64 ∧ v0.dts < 2^64) (hnp : (ctsOf v0.pts v0.dts).isSome) :
    (fileAudioPT w k : Int) = (ak.pts : Int) - a0.pts ∧
    fileVideoPT0 w offs spc = (v0.pts : Int) - v0.dts ∧
    (fileAudioPT w k : Int) - fileVideoPT0 w offs spc =
      ((ak.pts : Int) - a0.pts) - ((v0.pts : Int) - v0.dts) := by
  have hmem : ∀ {i : Nat} {s : Sample}, w.asRev.reverse[i]? = some s → s ∈ w.asRev := fun h =>
    List.mem_reverse.mp (List.mem_of_getElem? h)
  -- audio: the durations add up without drift, and pts = dts
  have hA : (fileAudioPT w k : Int) = (ak.pts : Int) - a0.pts := by
    have := track_nodrift' ha.1 k a0 ak ha0 hak
    rw [← ha.2 a0 (hmem ha0), ← ha.2 ak (hmem hak)] at this
    unfold fileAudioPT
    omega
  -- video: the first composition offset
  have hV : fileVideoPT0 w offs spc = (v0.pts : Int) - v0.dts := by
    rw [fileVideoPT0, (C03.ctts_of_inv w offs spc hv).1, List.headD_eq_head?_getD, List.head?_map,
      List.head?_eq_getElem?, hv0]
    exact Int.zero_add _
  exact ⟨hA, hV, by rw [hA, hV]⟩

/-- the discrepancy between the file and the submitted timestamps is exactly
    (first video decode timestamp − first audio timestamp), for every audio sample -/
theorem C09_error (w : Writer) (hv : VInv w) (ha : AInv w) (offs : List Nat) (spc k : Nat)
    (v0 a0 ak : Sample)
    (hv0 : w.vsRev.reverse[0]? = some v0) (ha0 : w.asRev.reverse[0]? = some a0)
    (hak : w.asRev.reverse[k]? = some ak)
    (h64 : v0.pts < 2^64 ∧ v0.dts < 2^64) (hnp : (ctsOf v0.pts v0.dts).isSome) :
    ((fileAudioPT w k : Int) - fileVideoPT0 w offs spc) - ((ak.pts : Int) - v0.pts) =
      (v0.dts : Int) - a0.pts := by
  obtain ⟨-, -, h⟩ := C09_timeline w hv ha offs spc k v0 a0 ak hv0 ha0 hak h64 hnp
  omega

/-- if the first audio timestamp equals the first video decode timestamp (in ticks), the
    property's claim holds with error 0 -/
theorem C09_partial (w : Writer) (hv : VInv w) (ha : AInv w) (offs : List Nat) (spc k : Nat)
    (v0 a0 ak : Sample)
    (hv0 : w.vsRev.reverse[0]? = some v0) (ha0 : w.asRev.reverse[0]? = some a0)
    (hak : w.asRev.reverse[k]? = some ak)
    (h64 : v0.pts < 2^64 ∧ v0.dts < 2^64) (hnp : (ctsOf v0.pts v0.dts).isSome)
    (hstart : a0.pts = v0.dts) :
    (fileAudioPT w k : Int) - fileVideoPT0 w offs spc = (ak.pts : Int) - v0.pts := by
  have := C09_error w hv ha offs spc k v0 a0 ak hv0 ha0 hak h64 hnp
  omega

/-- a writer state with one video frame at pts = dts = 0 and one audio frame at 45000 ticks (0.5 s) -/
def cex : Writer :=
  { codec := .h264, audio := some ⟨48000, 2, .opus⟩,
    vsRev := [⟨0, 0, [1], true, none⟩], vPrev := some 0,
    asRev := [⟨45000, 45000, [1], false, none⟩], aPrev := some 45000 }

/-- the state satisfies both invariants -/
theorem cex_inv : VInv cex ∧ AInv cex := by
  refine ⟨⟨trivial, ?_, rfl, rfl, ?_⟩, ⟨trivial, ?_, rfl, rfl, ?_⟩, ?_⟩ <;> simp [cex]

/-- on it the file places the audio sample at the same instant as the first video frame, although
    the submitted timestamps are 0.5 s (45000 ticks) apart -/
theorem C09_counterexample :
    durationsOf cex.asRev.reverse cex.aLastDelta = [1] ∧
    (fileAudioPT cex 0 : Int) - fileVideoPT0 cex [] 0 = 0 ∧
    ((45000 : Int) - 0) - ((fileAudioPT cex 0 : Int) - fileVideoPT0 cex [] 0) = 45000 := by
  decide

/-- API run: 16×16 VP9 + Opus, one key frame at 0.0 s, one Opus packet at 0.5 s, finish -/
def runCfg : Config := ⟨.vp9, 16, 16, some ⟨48000, 2, .opus⟩, none, false⟩
def vp9Key : Bytes := [0x49, 0x83, 0x42, 0x00, 0x00, 0x10, 0x10]
def run1 := (build runCfg).writeVideo (F64.ofBits 0) vp9Key true
def run2 := run1.1.writeAudio (F64.ofBits 0x3FE0000000000000) [0]
def run3 := run2.1.finishStats

/-- the same through the API: both calls are accepted, finish succeeds, the submitted timestamps
    are 0 and 45000 ticks, and the file puts the audio sample at the first video frame's instant -/
theorem C09_counterexample_api :
    run1.2 = .ok ∧ run2.2 = .ok ∧ (∃ st, run3.2.2 = .stats st) ∧ run3.2.1.res = .ok ∧
    (F64.ofBits 0).ticks = 0 ∧ (F64.ofBits 0x3FE0000000000000).ticks = 45000 ∧
    VInv run2.1.w ∧ AInv run2.1.w ∧
    (fileAudioPT run2.1.w 0 : Int) - fileVideoPT0 run2.1.w [] 0 = 0 := by
  -- the invariants hold after any two API calls on a freshly built muxer
  have hi : C03.Inv run2.1 :=
    (C03.C03_inv_api _ ((C03.C03_inv_api _ (C03.C03_inv_build runCfg)).1 _ _ _)).2.2.1 _ _
  exact ⟨by decide +kernel, by decide +kernel, Reply.exists_stats (by decide +kernel), by decide +kernel,
    by decide +kernel, by decide +kernel, hi.1, hi.2, by decide +kernel⟩

end Muxide.Props.C09
