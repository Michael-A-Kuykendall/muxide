import Muxide.Props.C01History
import Muxide.Props.C03E2E
/-
  C03 (history form) — C03_e2e_* speak about the queues of a reachable writer state.  Composed with
  `C01History.wrun_fresh` (the queues of the writer a history leads to are the accepted calls, with the
  timestamps that were submitted) they become statements about every sequence of write calls: the timing read
  back from the finished file is the submitted timing of the accepted calls.
-/
namespace Muxide.Props.C03History
open Muxide Muxide.Spec Muxide.Props.C01E2E Muxide.Props.C03E2E Muxide.Props.C01History

/-- **C03 for every history (video).** In the finished file, the decode time of the i-th video sample, read
    from the sample-to-time table, is the *submitted* decode time of the i-th accepted call minus that of the
    first, exactly, and its composition offset is submitted pts minus submitted dts — for histories of any length. -/
theorem C03_history_video (codec : VCodec) (a : Option AudioTrack) (cs : List WCall)
    (width height : Nat) (md : Option Metadata) (fast : Bool) :
    let w0 : Writer := { codec := codec, audio := a }
    let r := wrun w0 cs
    (r.1.finalize width height md fast).2.res = .ok →
    MoovFits r.1 width height md fast →
    let file := (r.1.finalize width height md fast).2.chunks.flatten
    ∀ mv, parseMovie file = some mv → ∀ t, mv.tracks[0]? = some t →
      ∀ i p0 pi, (acceptedVideo codec cs r.2)[0]? = some p0 → (acceptedVideo codec cs r.2)[i]? = some pi →
        ((expandRuns t.stts).take i).sum = pi.2.1 - p0.2.1 ∧ p0.2.1 ≤ pi.2.1 ∧
        ctsAt t i = (pi.1 : Int) - pi.2.1 := by
  intro w0 r hok hfit file mv hmv t ht i p0 pi h0 hi
  obtain ⟨q1, -, -, hreach⟩ := wrun_fresh codec a cs
  have q1' : acceptedVideo codec cs r.2 = r.1.vsRev.reverse.map vproj := q1.symm
  rw [q1', List.getElem?_map] at h0 hi
  obtain ⟨s0, hs0, rfl⟩ := Option.map_eq_some_iff.mp h0
  obtain ⟨si, hsi, rfl⟩ := Option.map_eq_some_iff.mp hi
  obtain ⟨d1, d2⟩ := C03_e2e_video_dts r.1 hreach width height md fast hok hfit mv hmv t ht i s0 si hs0 hsi
  exact ⟨d1, d2, C03_e2e_video_cts r.1 hreach width height md fast hok hfit mv hmv t ht i si hsi⟩

/-- **C03 for every history (audio).** The decode time of the i-th audio sample is the submitted time of the
    i-th accepted audio call minus that of the first; audio carries no composition offsets. -/
theorem C03_history_audio (codec : VCodec) (tr : AudioTrack) (cs : List WCall)
    (width height : Nat) (md : Option Metadata) (fast : Bool) :
    let w0 : Writer := { codec := codec, audio := some tr }
    let r := wrun w0 cs
    (r.1.finalize width height md fast).2.res = .ok →
    MoovFits r.1 width height md fast →
    let file := (r.1.finalize width height md fast).2.chunks.flatten
    ∀ mv, parseMovie file = some mv → ∀ t, mv.tracks[1]? = some t →
      t.ctts = none ∧
      ∀ i p0 pi, (acceptedAudio (some tr) cs r.2)[0]? = some p0 → (acceptedAudio (some tr) cs r.2)[i]? = some pi →
        ((expandRuns t.stts).take i).sum = pi.1 - p0.1 ∧ p0.1 ≤ pi.1 := by
  intro w0 r hok hfit file mv hmv t ht
  obtain ⟨-, q2, q4, hreach⟩ := wrun_fresh codec (some tr) cs
  refine ⟨C03_e2e_audio_no_ctts r.1 hreach width height md fast hok hfit tr q4 mv hmv t ht, ?_⟩
  intro i p0 pi h0 hi
  have q2' : acceptedAudio (some tr) cs r.2 = r.1.asRev.reverse.map aproj := q2.symm
  rw [q2', List.getElem?_map] at h0 hi
  obtain ⟨s0, hs0, rfl⟩ := Option.map_eq_some_iff.mp h0
  obtain ⟨si, hsi, rfl⟩ := Option.map_eq_some_iff.mp hi
  exact C03_e2e_audio_dts r.1 hreach width height md fast hok hfit tr q4 mv hmv t ht i s0 si hs0 hsi

end Muxide.Props.C03History
