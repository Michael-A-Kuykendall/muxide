import Muxide.Lemmas.E2E2
/-
  C01 (end to end) — the independent reader `Spec.parseMovie`, applied to the very bytes that
  `Writer.finalize` hands to the sink, returns a movie whose tracks, walked with the reader's own
  `Track.samples`, yield exactly the accepted frames: payload bytes and sync flags of every video
  frame, payload bytes of every audio frame, one entry per frame, in submission order.

  Composition of C02 (box tiling, `parseFileTree`), C16 (table round trips, value guards),
  C08 (layout and chunk offsets, `ReadsBack`) and C01 (chunk walk); the navigation of the reader
  through the builders' trees is in Muxide/Lemmas/E2E.lean, the file and its layout in
  Props/C01E2EFile.lean, and the complete record the reader returns (of which the tables used here
  are a part) in Muxide/Lemmas/E2E2.lean.

  The only hypothesis beyond "reachable writer, finalize returned ok" is that the moov box that
  is written is smaller than 2^32 bytes (`MoovFits`): the writer never checks the moov size, the
  32-bit size field of an oversized moov wraps and the file no longer parses. For the fast-start
  layout with at least one queued sample the hypothesis follows from the writer's own chunk-offset
  check (`C01_e2e_moov_fits_fast`).
-/
namespace Muxide.Props.C01E2E
open Muxide Muxide.Spec Muxide.Props.C08

/-! ### the tracks decode -/

/-- the video track written for any chunk-offset vector whose entries and count fit 32 bits is
    decoded by the reader, with exactly these sizes, offsets, sync samples and `stsc` run -/
theorem video_track_decodes (w : Writer) (hr : w.Reachable) (width height : Nat) (md : Option Metadata)
    (fast : Bool) (hok : (w.finalize width height md fast).2.res = .ok) (vc : VideoConfig)
    (lang : Option (List Nat)) (offs : List Nat) (spc : Nat) (hspc : spc < 2^32)
    (hoffs : ∀ x ∈ offs, x < 2^32) (hlen : offs.length < 2^32) :
    ∃ vt, decodeTrack (bVideoTrak width height (Tables.ofSamples w.vsRev.reverse offs spc w.vLastDelta) vc lang)
        = some vt ∧
      TrackTables vt (if offs.length % 2^32 = 0 ∨ spc = 0 then [] else [(1, spc, 1)])
        (w.vsRev.reverse.map (·.data.length)) offs
        (if keyframesOf w.vsRev.reverse ≠ [] then some (keyframesOf w.vsRev.reverse) else none) := by
  exact ⟨_, video_track_full w hr width height md fast hok vc lang offs spc hspc hoffs hlen, rfl, rfl, rfl, rfl⟩

/-- the same for the audio track -/
theorem audio_track_decodes (w : Writer) (hr : w.Reachable) (width height : Nat) (md : Option Metadata)
    (fast : Bool) (hok : (w.finalize width height md fast).2.res = .ok) (tr : AudioTrack)
    (hau : w.audio = some tr) (lang : Option (List Nat)) (offs : List Nat) (spc : Nat) (hspc : spc < 2^32)
    (hoffs : ∀ x ∈ offs, x < 2^32) (hlen : offs.length < 2^32) :
    ∃ at_, decodeTrack (bAudioTrak tr (Tables.ofSamples w.asRev.reverse offs spc w.aLastDelta) lang) = some at_ ∧
      TrackTables at_ (if offs.length % 2^32 = 0 ∨ spc = 0 then [] else [(1, spc, 1)])
        (w.asRev.reverse.map (·.data.length)) offs none := by
  exact ⟨_, audio_track_full w hr width height md fast hok tr hau lang offs spc hspc hoffs hlen,
    rfl, rfl, rfl, rfl⟩

/-! ### the movie -/

theorem movie_of_top (w : Writer) (hr : w.Reachable) (width height : Nat) (md : Option Metadata)
    (fast : Bool) (hok : (w.finalize width height md fast).2.res = .ok) (file : Bytes) (top : List Box)
    (htop : parseFileTree file = some top)
    (hm : child? "moov" top = some (writtenMoov w width height md fast)) :
    ∃ mv, parseMovie file = some mv ∧ Decoded w width height md fast mv := by
  obtain ⟨mv, hmv, hd⟩ := movie_of_top_full w hr width height md fast hok file top htop hm
  exact ⟨mv, hmv, decoded_of_full hd hok⟩

/-- the composition: the finished file parses, and the decoded tracks carry the writer's tables -/
theorem e2e_core (w : Writer) (hr : w.Reachable) (width height : Nat) (md : Option Metadata)
    (fast : Bool) (hok : (w.finalize width height md fast).2.res = .ok)
    (hfit : MoovFits w width height md fast) :
    ∃ mv, parseMovie (fileOf w width height md fast) = some mv ∧ Decoded w width height md fast mv := by
  obtain ⟨mv, hmv, hd⟩ := e2e_full w hr width height md fast hok hfit
  exact ⟨mv, hmv, decoded_of_full hd hok⟩

/-! ### from the decoded tables to the samples -/

theorem offsetsAt_nil (w : Writer) (start : Nat) :
    (w.vsRev = [] → (offsetsAt w start).1 = []) ∧ (w.asRev = [] → (offsetsAt w start).2 = []) := by
  obtain ⟨hv, ha⟩ := offsetsAt_length_le w start
  constructor
  · intro h; rw [h] at hv; exact List.eq_nil_of_length_eq_zero (Nat.le_zero.mp hv)
  · intro h; rw [h] at ha; exact List.eq_nil_of_length_eq_zero (Nat.le_zero.mp ha)

theorem walk_video (w : Writer) (file : Bytes) (o : List Nat × List Nat) (hrb : ReadsBack w file o)
    (hl : w.vsRev = [] → o.1 = []) :
    (walkChunks (stscOf w.vsRev.length (spcOf w)) o.1 1 (w.vsRev.reverse.map (·.data.length))).map
      (fun r => slice file r.1 r.2) = w.vsRev.reverse.map (·.data) := by
  by_cases hne : w.vsRev = []
  · rw [hl hne, hne]; rfl
  · have hn : w.vsRev.length ≠ 0 := by simpa using hne
    unfold ReadsBack at hrb
    unfold stscOf spcOf
    rw [if_neg hn]
    cases hau : w.audio with
    | some tr => rw [hau] at hrb; exact hrb.1
    | none =>
      rw [hau] at hrb
      simp only [List.length_reverse] at hrb
      exact hrb

theorem walk_audio (w : Writer) (file : Bytes) (o : List Nat × List Nat) (hrb : ReadsBack w file o)
    (tr : AudioTrack) (hau : w.audio = some tr) (hl : w.asRev = [] → o.2 = []) :
    (walkChunks (stscOf w.asRev.length 1) o.2 1 (w.asRev.reverse.map (·.data.length))).map
      (fun r => slice file r.1 r.2) = w.asRev.reverse.map (·.data) := by
  by_cases hne : w.asRev = []
  · rw [hl hne, hne]; rfl
  · have hn : w.asRev.length ≠ 0 := by simpa using hne
    unfold ReadsBack at hrb
    rw [hau] at hrb
    unfold stscOf
    rw [if_neg hn]
    exact hrb.2

/-- the reader's sync flags of the decoded video track are the key flags of the accepted frames -/
theorem sync_flags (w : Writer) (hr : w.Reachable) (t : Track)
    (hs : t.sizes = w.vsRev.reverse.map (·.data.length)) (hk : t.stss = stssOf w.vsRev.reverse) :
    t.syncFlags = w.vsRev.reverse.map (·.key) := by
  have hlen : t.sizes.length = w.vsRev.reverse.length := by rw [hs]; simp
  unfold Track.syncFlags
  rw [hk, stssOf, hlen]
  by_cases hne : w.vsRev = []
  · rw [hne]; rfl
  · rw [if_pos (hr.keyframes_ne_nil hne)]
    exact syncFlags_keyframes _

/-! ## The end-to-end theorems -/

/-- The file written by a successful `finalize` of any reachable writer is accepted by the
    independent reader, which finds one track, or two when an audio track is configured — for
    both layouts, with or without metadata, with or without samples in either track. -/
theorem C01_e2e_parses (w : Writer) (hr : w.Reachable) (width height : Nat) (md : Option Metadata)
    (fast : Bool) (hok : (w.finalize width height md fast).2.res = .ok)
    (hfit : MoovFits w width height md fast) :
    let file := (w.finalize width height md fast).2.chunks.flatten
    ∃ mv, parseMovie file = some mv ∧ mv.tracks.length = (if w.audio.isSome then 2 else 1) := by
  obtain ⟨mv, hmv, hd⟩ := e2e_core w hr width height md fast hok hfit
  exact ⟨mv, hmv, hd.count⟩

/-- The decoded tables of both tracks, for citation: the sizes are the payload lengths, the
    chunk offsets are the writer's offsets for media data starting at `mediaStart`, the `stsc`
    table is the single run that `C08.ReadsBack` assumes (empty for an empty track), the video
    `stss` lists exactly the key frames (absent iff there is none, i.e. iff there is no video
    frame), the audio track has no `stss`; and the byte ranges found by the reader's own chunk
    walk, sliced out of the file, are the payloads. -/
theorem C01_e2e_sizes_and_count (w : Writer) (hr : w.Reachable) (width height : Nat) (md : Option Metadata)
    (fast : Bool) (hok : (w.finalize width height md fast).2.res = .ok)
    (hfit : MoovFits w width height md fast) :
    let file := (w.finalize width height md fast).2.chunks.flatten
    let o := offsetsAt w (mediaStart w width height md fast)
    ∀ mv, parseMovie file = some mv →
      (∀ t, mv.tracks[0]? = some t →
        t.sizes = w.vsRev.reverse.map (·.data.length) ∧ t.sizes.length = w.vsRev.length ∧
        t.stco = o.1 ∧ t.stsc = stscOf w.vsRev.length (spcOf w) ∧ t.stss = stssOf w.vsRev.reverse ∧
        t.ranges.map (fun r => slice file r.1 r.2) = w.vsRev.reverse.map (·.data)) ∧
      (∀ tr, w.audio = some tr → ∀ t, mv.tracks[1]? = some t →
        t.sizes = w.asRev.reverse.map (·.data.length) ∧ t.sizes.length = w.asRev.length ∧
        t.stco = o.2 ∧ t.stsc = stscOf w.asRev.length 1 ∧ t.stss = none ∧
        t.ranges.map (fun r => slice file r.1 r.2) = w.asRev.reverse.map (·.data)) := by
  intro file o mv hmv
  have hd := decoded_of_full (e2e_tracks w hr width height md fast hok hfit mv hmv).1 hok
  obtain ⟨hrb, -, -⟩ := file_layout w hr width height md fast hok
  have hnil := offsetsAt_nil w (mediaStart w width height md fast)
  constructor
  · intro t ht
    obtain ⟨vt, hvt, tv⟩ := hd.video
    obtain rfl : vt = t := Option.some.inj (hvt.symm.trans ht)
    refine ⟨tv.sizes_eq, by rw [tv.sizes_eq]; simp, tv.stco_eq, tv.stsc_eq, tv.stss_eq, ?_⟩
    unfold Track.ranges
    rw [tv.stsc_eq, tv.stco_eq, tv.sizes_eq]
    exact walk_video w _ _ hrb hnil.1
  · intro tr hau t ht
    obtain ⟨at_, hat, ta⟩ := hd.audio tr hau
    obtain rfl : at_ = t := Option.some.inj (hat.symm.trans ht)
    refine ⟨ta.sizes_eq, by rw [ta.sizes_eq]; simp, ta.stco_eq, ta.stsc_eq, ta.stss_eq, ?_⟩
    unfold Track.ranges
    rw [ta.stsc_eq, ta.stco_eq, ta.sizes_eq]
    exact walk_audio w _ _ hrb tr hau hnil.2

/-- Video: walking the first track of the parsed movie with the reader's own `Track.samples`
    yields, in submission order, one entry per accepted video frame carrying exactly that frame's
    stored payload bytes and its key-frame flag. No corner is excluded: a reachable writer's first
    video frame is always a key frame, so the `stss` box is present whenever there is a frame, and
    an empty video track (audio only, or no sample at all) has no `stss` and no samples. -/
theorem C01_e2e_video (w : Writer) (hr : w.Reachable) (width height : Nat) (md : Option Metadata)
    (fast : Bool) (hok : (w.finalize width height md fast).2.res = .ok)
    (hfit : MoovFits w width height md fast) :
    let file := (w.finalize width height md fast).2.chunks.flatten
    ∀ mv, parseMovie file = some mv → ∀ t, mv.tracks[0]? = some t →
      (t.samples file).map (fun s => (s.1, s.2.1)) = w.vsRev.reverse.map (fun s => (s.data, s.key)) := by
  intro file mv hmv t ht
  obtain ⟨hs, -, -, -, hk, hrg⟩ :=
    (C01_e2e_sizes_and_count w hr width height md fast hok hfit mv hmv).1 t ht
  rw [samples_payload_sync t file _ _ hrg (sync_flags w hr t hs hk), List.zip_map']

/-- the payload half alone -/
theorem C01_e2e_video_payloads (w : Writer) (hr : w.Reachable) (width height : Nat) (md : Option Metadata)
    (fast : Bool) (hok : (w.finalize width height md fast).2.res = .ok)
    (hfit : MoovFits w width height md fast) :
    let file := (w.finalize width height md fast).2.chunks.flatten
    ∀ mv, parseMovie file = some mv → ∀ t, mv.tracks[0]? = some t →
      (t.samples file).map (·.1) = w.vsRev.reverse.map (·.data) := by
  intro file mv hmv t ht
  have h := congrArg (List.map Prod.fst) (C01_e2e_video w hr width height md fast hok hfit mv hmv t ht)
  simpa [List.map_map, Function.comp_def] using h

/-- Audio: when an audio track is configured, the second track of the parsed movie yields, in
    submission order, exactly the stored payload of every accepted audio frame (none at all when
    no audio frame was written). -/
theorem C01_e2e_audio (w : Writer) (hr : w.Reachable) (width height : Nat) (md : Option Metadata)
    (fast : Bool) (hok : (w.finalize width height md fast).2.res = .ok)
    (hfit : MoovFits w width height md fast) (tr : AudioTrack) (hau : w.audio = some tr) :
    let file := (w.finalize width height md fast).2.chunks.flatten
    ∀ mv, parseMovie file = some mv → ∀ t, mv.tracks[1]? = some t →
      (t.samples file).map (·.1) = w.asRev.reverse.map (·.data) := by
  intro file mv hmv t ht
  obtain ⟨-, hl, -, -, -, hrg⟩ :=
    (C01_e2e_sizes_and_count w hr width height md fast hok hfit mv hmv).2 tr hau t ht
  apply samples_payload t file _ hrg
  rw [syncFlags_length, hl]; simp

/-- the sync flags of the audio track: every audio sample is a sync sample (no `stss`) -/
theorem C01_e2e_audio_sync (w : Writer) (hr : w.Reachable) (width height : Nat) (md : Option Metadata)
    (fast : Bool) (hok : (w.finalize width height md fast).2.res = .ok)
    (hfit : MoovFits w width height md fast) (tr : AudioTrack) (hau : w.audio = some tr) :
    let file := (w.finalize width height md fast).2.chunks.flatten
    ∀ mv, parseMovie file = some mv → ∀ t, mv.tracks[1]? = some t →
      t.syncFlags = List.replicate w.asRev.length true := by
  intro file mv hmv t ht
  obtain ⟨-, hl, -, -, hk, -⟩ :=
    (C01_e2e_sizes_and_count w hr width height md fast hok hfit mv hmv).2 tr hau t ht
  unfold Track.syncFlags
  rw [hk, hl]

/-- Summary (1–3 in one statement): the movie exists, its first track reads back every video
    frame with its sync flag, and — when an audio track is configured — its second track reads
    back every audio frame. -/
theorem C01_e2e (w : Writer) (hr : w.Reachable) (width height : Nat) (md : Option Metadata)
    (fast : Bool) (hok : (w.finalize width height md fast).2.res = .ok)
    (hfit : MoovFits w width height md fast) :
    let file := (w.finalize width height md fast).2.chunks.flatten
    ∃ mv vt, parseMovie file = some mv ∧ mv.tracks.length = (if w.audio.isSome then 2 else 1) ∧
      mv.tracks[0]? = some vt ∧
      (vt.samples file).map (fun s => (s.1, s.2.1)) = w.vsRev.reverse.map (fun s => (s.data, s.key)) ∧
      (∀ tr, w.audio = some tr → ∃ at_, mv.tracks[1]? = some at_ ∧
        (at_.samples file).map (·.1) = w.asRev.reverse.map (·.data)) := by
  intro file
  obtain ⟨mv, hmv, hd⟩ := e2e_core w hr width height md fast hok hfit
  obtain ⟨vt, hvt, -⟩ := hd.video
  refine ⟨mv, vt, hmv, hd.count, hvt, C01_e2e_video w hr width height md fast hok hfit mv hmv vt hvt, ?_⟩
  intro tr hau
  obtain ⟨at_, hat, -⟩ := hd.audio tr hau
  exact ⟨at_, hat, C01_e2e_audio w hr width height md fast hok hfit tr hau mv hmv at_ hat⟩

/-! ## Where reachability is used -/

/-- The sync-flag half of `C01_e2e_video` uses reachability exactly once: the first accepted video
    frame is a key frame, so `stss` is present whenever there is a frame. For a writer *state* that
    the API cannot produce — a single queued frame that is not a key frame — `build_stss` is
    skipped (no key frame), the reader then treats every sample as a sync sample, and the flag
    read back is `true` although the frame's flag is `false` (the payload still reads back). -/
theorem C01_e2e_sync_needs_first_key :
    let w : Writer := { codec := .vp9, vsRev := [⟨0, 0, [1, 2], false, none⟩], vPrev := some 0 }
    let file := (w.finalize 16 16 none false).2.chunks.flatten
    (w.finalize 16 16 none false).2.res = .ok ∧
    (parseMovie file).map (fun mv => mv.tracks.map fun t => (t.samples file).map fun s => (s.1, s.2.1)) =
      some [[([1, 2], true)]] ∧
    w.vsRev.reverse.map (fun s => (s.data, s.key)) = [([1, 2], false)] := by
  intro w file
  have hok : (w.finalize 16 16 none false).2.res = .ok := by decide +kernel
  obtain ⟨h1, h2⟩ := written_tree w 16 16 none false hok nofun (by unfold MoovFits; decide +kernel)
  refine ⟨hok, ?_, rfl⟩
  -- the reader is evaluated on the box tree that is written
  rw [show parseMovie file = _ from parseMovie_of_top h1 h2]
  decide +kernel

/-! ## The hypothesis `MoovFits` -/

theorem maxPushed_ge (step : Ent → Nat) (l : List Ent) (cur : Nat) (h : l ≠ []) : cur ≤ maxPushed step l cur := by
  cases l with
  | nil => exact absurd rfl h
  | cons e es => simp only [maxPushed]; omega

theorem schedule_ne_nil (vs aus : List Sample) (h : vs ≠ [] ∨ aus ≠ []) : schedule vs aus ≠ [] := by
  apply List.ne_nil_of_length_pos
  rw [schedule_length]
  rcases h with h | h <;> have := List.length_pos_iff.mpr h <;> omega

/-- In the fast-start layout with at least one queued sample the hypothesis `MoovFits` is implied
    by the writer's own chunk-offset check: the first chunk offset is `ftyp + moov + 8` and was
    checked against `u32::MAX`. -/
theorem C01_e2e_moov_fits_fast (w : Writer) (hr : w.Reachable) (width height : Nat) (md : Option Metadata)
    (hok : (w.finalize width height md true).2.res = .ok) (hne : w.vsRev ≠ [] ∨ w.asRev ≠ []) :
    MoovFits w width height md true := by
  rw [(finalize_ok hok).out, layoutOut_true] at hok
  have h := (finalizeFastStart_ok (vc := vcOf w) hok).offsets
  -- there is a sample, so the first chunk offset is the start of the media data
  have hge : ∀ s, s ≤ maxOffsetAt w s := by
    intro s
    unfold maxOffsetAt
    cases hau : w.audio with
    | none =>
      have hv : w.vsRev.reverse ≠ [] := by simpa using hne.resolve_right fun h => h (hr.inv.noAudio hau)
      rw [if_pos hv]
      exact Nat.le_refl s
    | some tr => exact maxPushed_ge _ _ _ (schedule_ne_nil _ _ (by simpa using hne))
  have := hge (fastStart w width height md (vcOf w))
  rw [moovFits_iff]
  rw [fastStart_eq] at this h
  simp only [u32Max] at h
  omega

/-- Why `MoovFits` is a hypothesis: the writer never checks the moov size. A fresh writer
    finalised with a title of 2^32 bytes or more reports `ok`, yet the moov it writes does not
    fit the 32-bit size field. -/
theorem C01_e2e_moov_unchecked (title : Bytes) (h : 2^32 ≤ title.length) :
    let w : Writer := { codec := .h264 }
    let md : Option Metadata := some { title := some title }
    w.Reachable ∧ (w.finalize 16 16 md false).2.res = .ok ∧ ¬ MoovFits w 16 16 md false := by
  intro w md
  refine ⟨.init .h264 none, ?_, ?_⟩
  · rw [finalize_of_fresh _ _ _ _ _ rfl, if_neg (by decide), if_neg (by decide), layoutOut_false]
    exact finalizeStandard_ok_of_fits (by decide) (by decide)
  · unfold MoovFits writtenMoov moovOf
    simp only [w, md, bMoov, bUdta, bIlstItem, Option.bind_some, Box.node, Box.leaf, Box.size, Box.sizes,
      List.reverse_nil, List.isEmpty_cons, List.append_nil, List.nil_append, List.cons_append,
      Bool.false_eq_true, if_false, List.length_cons, List.length_nil]
    omega

/-! ## Non-vacuity -/
namespace Example
def tr0 : AudioTrack := ⟨48000, 2, .opus⟩
def f0 : Bytes := [0,0,0,1,0x67,0x42,0,0x1e, 0,0,0,1,0x68,0xce, 0,0,0,1,0x65,0x88]
def f1 : Bytes := [0,0,0,1,0x41,0x9a]
def pkt : Bytes := [0xfc, 1, 2, 3]
/-- a fresh H.264 writer with an Opus track; one key frame (SPS, PPS, IDR), one delta frame, one
    audio packet — built with the API calls only -/
def wE : Writer :=
  ((({ codec := .h264, audio := some tr0 } : Writer).writeVideo 0 0 f0 true).1.writeVideo 3000 3000 f1 false).1.writeAudio 0 pkt |>.1

theorem wE_reachable : wE.Reachable :=
  .audio 0 pkt (.video 3000 3000 f1 false (.video 0 0 f0 true (.init .h264 (some tr0))))

def v0 : Sample := ⟨0, 0, [0, 0, 0, 4, 103, 66, 0, 30, 0, 0, 0, 2, 104, 206, 0, 0, 0, 2, 101, 136], true, some 3000⟩
def v1 : Sample := ⟨3000, 3000, [0, 0, 0, 2, 65, 154], false, none⟩
def a0 : Sample := ⟨0, 0, [252, 1, 2, 3], false, none⟩

def wS : Writer :=
  { codec := .h264, vsRev := [v1, v0], vPrev := some 3000, vLastDelta := some 3000,
    vConfig := some (.avc ⟨[103, 66, 0, 30], [104, 206]⟩), audio := some tr0, asRev := [a0], aPrev := some 0 }

theorem wE_eq : wE = wS := by decide +kernel

theorem sched_wE : schedule [v0, v1] [a0] = [⟨0, 0, 0⟩, ⟨0, 1, 0⟩, ⟨3000, 0, 1⟩] := by
  apply schedule_unique <;> decide

theorem wS_vs : wS.vsRev.reverse = [v0, v1] := rfl
theorem wS_as : wS.asRev.reverse = [a0] := rfl
theorem wS_au : wS.audio = some tr0 := rfl
theorem wE_au : wE.audio = some tr0 := wE_eq ▸ wS_au

/-- `ftyp`, the moov, the mdat header and the media data of the example stay far below `u32::MAX` -/
theorem wS_size :
    ftypLen + moovSize wS 640 480 none (wS.vConfig.getD (.avc defaultAvc)) + 8 + payloadLen wS ≤ u32Max := by
  decide +kernel

theorem wE_ok (fast : Bool) : (wE.finalize 640 480 none fast).2.res = .ok := by
  rw [wE_eq]
  exact finalize_ok_of_fits fast rfl nofun (by decide +kernel) (by decide +kernel) (by decide) (by decide)
    (by decide +kernel) wS_size

theorem wE_fits (fast : Bool) : MoovFits wE 640 480 none fast := by
  have := wS_size
  rw [wE_eq, moovFits_iff, vcOf]
  simp only [u32Max] at this
  omega

/-- non-vacuity of the hypotheses of all end-to-end theorems, for both layouts -/
example (fast : Bool) : wE.Reachable ∧ (wE.finalize 640 480 none fast).2.res = .ok ∧ MoovFits wE 640 480 none fast ∧
    wE.audio = some tr0 ∧ wE.vsRev.length = 2 ∧ wE.asRev.length = 1 :=
  ⟨wE_reachable, wE_ok fast, wE_fits fast, wE_au, by rw [wE_eq]; rfl, by rw [wE_eq]; rfl⟩

/-- … hence the file parses into a movie with two tracks -/
example (fast : Bool) : ∃ mv, parseMovie (wE.finalize 640 480 none fast).2.chunks.flatten = some mv ∧
    mv.tracks.length = 2 := by
  have := C01_e2e_parses wE wE_reachable 640 480 none fast (wE_ok fast) (wE_fits fast)
  rw [wE_eq] at this ⊢
  exact this

/-- … and, independently of the theorems, by evaluation (standard layout): the reader returns
    the two video payloads with their sync flags, and the audio payload -/
example :
    let file := (wE.finalize 640 480 none false).2.chunks.flatten
    (parseMovie file).map (fun mv => mv.tracks.map fun t => (t.samples file).map fun s => (s.1, s.2.1)) =
      some [[(v0.data, true), (v1.data, false)], [(a0.data, true)]] := by
  rw [wE_eq]
  simp only [Writer.finalize, finalizeStandard, wS_vs, wS_as, wS_au, sched_wE]
  decide +kernel
end Example

end Muxide.Props.C01E2E
