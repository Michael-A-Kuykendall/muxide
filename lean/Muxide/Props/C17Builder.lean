import Muxide.Lemmas.Builder
/-
  C17 / C04 — the builder's fluent calls.  "Builder aliases produce identical files" and "at any point
  in any sequence of builder calls": the muxer a call sequence builds is a function of the declarative
  *last call of each kind* reading (Spec.BuilderSpec), for every sequence of any length.
-/
namespace Muxide
open Spec

/-- the configuration `build` reads is exactly what the call sequence denotes -/
theorem C17_builder_config (ops : List BOp) : (Builder.run ops).config = effectiveConfig ops := by
  unfold Builder.config effectiveConfig
  rw [run_video, run_audio, run_fast, run_md]

/-- `build` as a function of the denoted configuration alone -/
theorem C17_builder_build (ops : List BOp) :
    (Builder.run ops).build =
      match effectiveConfig ops with
      | none => .missingVideoConfig
      | some c => match buildChecked c with
        | none => .io
        | some m => .ok m := by
  unfold Builder.build
  rw [C17_builder_config]
  rfl

/-- two call sequences denoting the same configuration build the same muxer (or fail alike) -/
theorem C17_builder_equiv (ops₁ ops₂ : List BOp) (h : effectiveConfig ops₁ = effectiveConfig ops₂) :
    (Builder.run ops₁).build = (Builder.run ops₂).build := by
  rw [C17_builder_build, C17_builder_build, h]

theorem step_normalize (b : Builder) (op : BOp) : b.step (normalize op) = b.step op := by
  cases op <;> rfl

/-- builder aliases: `set_video_track` / `set_audio_track` may replace `video` / `audio` anywhere in
    any call sequence without changing the builder state (hence neither `build` nor
    `new_with_fragment`) -/
theorem C17_builder_aliases (ops : List BOp) : Builder.run (ops.map normalize) = Builder.run ops := by
  simp only [Builder.run, List.foldl_map, step_normalize]

/-- a call after which an `audio(None, ..)` follows: the built muxer has no audio track, as if no audio
    call had ever been made (the C17 clause "audio codec 'none' vs no audio", at the builder) -/
theorem C17_builder_audio_none (ops : List BOp) (r ch : Nat) :
    (Builder.run (ops ++ [.audio ⟨r, ch, .none⟩])).build =
      (Builder.run (ops.filter fun op => (audioOf op).isNone)).build := by
  rw [C17_builder_build, C17_builder_build, effectiveConfig_snoc_audio, effectiveConfig_filter_audio]
  cases effectiveConfig ops with
  | none => rfl
  | some c => simp [buildChecked, build]

/-- `new_with_fragment` is the declarative reading too -/
theorem C17_builder_fragment (ops : List BOp) :
    (Builder.run ops).newWithFragment = effectiveFragConfig ops := by
  unfold Builder.newWithFragment effectiveFragConfig
  rw [run_video, run_sps, run_pps, run_vps, run_av1, run_vp9]
  cases lastSome videoOf ops with
  | none => rfl
  | some v =>
    obtain ⟨c, w, h⟩ := v
    cases c <;> rfl

/-- metadata through the setters equals metadata through a `Metadata` value -/
theorem C17_builder_setters (ops : List BOp) (m : Metadata) (t : Nat) (l : List Nat) :
    Builder.run (ops ++ [.withMetadata m, .setCreateTime t, .setLanguage l]) =
    Builder.run (ops ++ [.withMetadata { m with ctime := some t, language := some l }]) ∧
    Builder.run (ops ++ [.withMetadata m, .setLanguage l, .setCreateTime t]) =
    Builder.run (ops ++ [.withMetadata { m with ctime := some t, language := some l }]) := by
  simp [Builder.run, List.foldl_append, Builder.step]

/-- the setters alone start from an empty `Metadata` -/
theorem C17_builder_setters_alone (t : Nat) (l : List Nat) :
    (Builder.run [.setCreateTime t, .setLanguage l]).md = some { ctime := some t, language := some l } ∧
    (Builder.run [.setLanguage l, .setCreateTime t]).md = some { ctime := some t, language := some l } := by
  simp [Builder.run, Builder.new, Builder.step]

/-- `Metadata::new().with_*` calls: the last call of each kind decides, order across kinds is irrelevant -/
theorem C17_metadata_calls (t : Bytes) (c : Nat) (l : List Nat) :
    mkMetadata [.withTitle t, .withCreationTime c, .withLanguage l] = ⟨some t, some c, some l⟩ ∧
    mkMetadata [.withLanguage l, .withCreationTime c, .withTitle t] = ⟨some t, some c, some l⟩ ∧
    mkMetadata [.withCreationTime c, .withTitle t, .withLanguage l] = ⟨some t, some c, some l⟩ := by
  simp [mkMetadata, MdOp.apply]

/-- non-vacuity: a concrete sequence with aliases, an overridden audio call and setters builds, and
    denotes the expected configuration -/
example : effectiveConfig [.setVideoTrack .h264 640 480, .audio ⟨48000, 2, .opus⟩, .withFastStart false,
      .setLanguage [101, 110, 103], .setAudioTrack ⟨44100, 1, .aac .lc⟩, .video .vp9 16 16] =
    some { codec := .vp9, width := 16, height := 16, audio := some ⟨44100, 1, .aac .lc⟩,
           md := some { language := some [101, 110, 103] }, fast := false } := by decide

end Muxide
