import Muxide.Props.C01E2E
import Muxide.Props.C18
/-
  C18 (end to end) — the METADATA a reader sees. The independent reader `Spec.parseMovie`, applied
  to the very bytes `Writer.finalize` hands to the sink, returns
  * as `mv.udta` (its own lookup of the `udta` child of the parsed moov) exactly the box `bUdta`
    built from the metadata — so every box-level theorem of Props/C18.lean (`C18_udta_some`,
    `C18_title_item`, `C18_day_item`, `C18_no_other_items`, `C18_format`, …) is a statement about
    what the READER returns; `none` exactly when no metadata was given or it has neither title
    nor creation time;
  * walking the reader's own path `udta / meta / ilst`: one name item whose `data` payload is the
    title, byte for byte, iff a title is configured; one day item whose `data` payload is the
    formatted creation time iff one is configured; nothing else;
  * in every decoded track's `mdhd` payload, at bytes 20–21, the packed language code of
    `C18_mdhd_lang` (which `C18_lang` unpacks to the configured three letters).
  Same hypotheses as C01E2E: reachable writer, `finalize` returned ok, `MoovFits`.
-/
namespace Muxide.Props.C18E2E
open Muxide Muxide.Spec Box Muxide.Props.C01E2E

/-! ## reader-side views -/

/-- the reader's item list: `udta / meta / ilst` below the movie's user-data box -/
def ilstOf (mv : Movie) : Option Box := mv.udta.bind fun u => path? ["meta", "ilst"] u.kids

/-- the values of the items of type `typ`: for each such child of the item list, the payload of
    its `data` box after the 8-byte type-indicator / locale header -/
def itemValues (mv : Movie) (typ : Bytes) : Option (List (Option Bytes)) :=
  (ilstOf mv).map fun il =>
    (il.kids.filter (fun b => b.typ = typ)).map fun b => (child? "data" b.kids).map (·.pre.drop 8)

/-! ## 1. the user-data box -/

/-- The reader's `udta` is exactly what `bUdta` built from the metadata (or nothing). -/
theorem C18_e2e_udta (w : Writer) (hr : w.Reachable) (width height : Nat) (md : Option Metadata)
    (fast : Bool) (hok : (w.finalize width height md fast).2.res = .ok)
    (hfit : MoovFits w width height md fast) :
    let file := (w.finalize width height md fast).2.chunks.flatten
    ∀ mv, parseMovie file = some mv → mv.udta = md.bind bUdta := by
  intro file mv hmv
  exact (e2e_tracks w hr width height md fast hok hfit mv hmv).1.udta

/-- The reader finds no user data exactly when no metadata was given, or the metadata has
    neither a title nor a creation time (a language alone goes to the media headers only). -/
theorem C18_e2e_udta_none_iff (w : Writer) (hr : w.Reachable) (width height : Nat) (md : Option Metadata)
    (fast : Bool) (hok : (w.finalize width height md fast).2.res = .ok)
    (hfit : MoovFits w width height md fast) :
    let file := (w.finalize width height md fast).2.chunks.flatten
    ∀ mv, parseMovie file = some mv →
      (mv.udta = none ↔ (md = none ∨ ∃ m, md = some m ∧ m.title = none ∧ m.ctime = none)) := by
  intro file mv hmv
  rw [C18_e2e_udta w hr width height md fast hok hfit mv hmv]
  cases md with
  | none => simp
  | some m => simp [C18.C18_udta_none]

/-- With a title or a creation time the reader's `udta` is `some u` with `bUdta m = some u`, and
    `u` is the tree `udta > meta(hdlr "mdir", ilst(items))` of `C18_udta_some`, whose items are
    characterised by `C18_title_item`, `C18_day_item`, `C18_no_other_items`. -/
theorem C18_e2e_udta_some (w : Writer) (hr : w.Reachable) (width height : Nat) (m : Metadata)
    (fast : Bool) (hok : (w.finalize width height (some m) fast).2.res = .ok)
    (hfit : MoovFits w width height (some m) fast) (h : m.title ≠ none ∨ m.ctime ≠ none) :
    let file := (w.finalize width height (some m) fast).2.chunks.flatten
    ∀ mv, parseMovie file = some mv →
      ∃ u, mv.udta = some u ∧ bUdta m = some u ∧
        u = node "udta" [] [node "meta" (zeros 4) [bMetaHdlr, node "ilst" [] (C18.items m)]] ∧
        ilstOf mv = some (node "ilst" [] (C18.items m)) := by
  intro file mv hmv
  have hu := C18_e2e_udta w hr width height (some m) fast hok hfit mv hmv
  have hs := C18.C18_udta_some m h
  rw [Option.bind_some, hs] at hu
  refine ⟨_, hu, hs, rfl, ?_⟩
  unfold ilstOf
  rw [hu]
  rfl

/-! ## 2. title and creation time, read along the reader's own path -/

/-- values of the name / day items of the item list `C18.items m` -/
theorem C18_e2e_items_values (m : Metadata) :
    (((C18.items m).filter (fun b => b.typ = namType)).map fun b => (child? "data" b.kids).map (·.pre.drop 8)) =
      (match m.title with | some t => [some t] | none => []) ∧
    (((C18.items m).filter (fun b => b.typ = dayType)).map fun b => (child? "data" b.kids).map (·.pre.drop 8)) =
      (match m.ctime with | some c => [some (formatTimestamp c)] | none => []) := by
  rw [C18.C18_title_item, C18.C18_day_item]
  constructor
  · cases m.title <;> simp [child?, tag, leaf, Box.typ, Box.kids, Box.pre]
  · cases m.ctime <;> simp [child?, tag, leaf, Box.typ, Box.kids, Box.pre]

/-- Title: the reader finds, under `udta / meta / ilst`, exactly one `©nam` item whose `data`
    payload is the configured title byte for byte — none when only a creation time is configured;
    and no item list at all (`none`) when neither is configured or no metadata was given. -/
theorem C18_e2e_title (w : Writer) (hr : w.Reachable) (width height : Nat) (md : Option Metadata)
    (fast : Bool) (hok : (w.finalize width height md fast).2.res = .ok)
    (hfit : MoovFits w width height md fast) :
    let file := (w.finalize width height md fast).2.chunks.flatten
    ∀ mv, parseMovie file = some mv →
      (∀ m, md = some m → (m.title ≠ none ∨ m.ctime ≠ none) →
        itemValues mv namType = some (match m.title with | some t => [some t] | none => [])) ∧
      ((md = none ∨ ∃ m, md = some m ∧ m.title = none ∧ m.ctime = none) → itemValues mv namType = none) := by
  intro file mv hmv
  constructor
  · rintro m rfl h
    obtain ⟨u, -, -, -, hi⟩ := C18_e2e_udta_some w hr width height m fast hok hfit h mv hmv
    unfold itemValues
    rw [hi, Option.map_some]
    exact congrArg some (C18_e2e_items_values m).1
  · intro h
    have := (C18_e2e_udta_none_iff w hr width height md fast hok hfit mv hmv).mpr h
    unfold itemValues ilstOf
    rw [this]; rfl

/-- Creation time: exactly one `©day` item whose `data` payload is `formatTimestamp c`
    (`YYYY-MM-DDTHH:MM:SSZ`, see `C18_format`, `C18_date`) iff a creation time is configured. -/
theorem C18_e2e_day (w : Writer) (hr : w.Reachable) (width height : Nat) (md : Option Metadata)
    (fast : Bool) (hok : (w.finalize width height md fast).2.res = .ok)
    (hfit : MoovFits w width height md fast) :
    let file := (w.finalize width height md fast).2.chunks.flatten
    ∀ mv, parseMovie file = some mv →
      (∀ m, md = some m → (m.title ≠ none ∨ m.ctime ≠ none) →
        itemValues mv dayType = some (match m.ctime with | some c => [some (formatTimestamp c)] | none => [])) ∧
      ((md = none ∨ ∃ m, md = some m ∧ m.title = none ∧ m.ctime = none) → itemValues mv dayType = none) := by
  intro file mv hmv
  constructor
  · rintro m rfl h
    obtain ⟨u, -, -, -, hi⟩ := C18_e2e_udta_some w hr width height m fast hok hfit h mv hmv
    unfold itemValues
    rw [hi, Option.map_some]
    exact congrArg some (C18_e2e_items_values m).2
  · intro h
    have := (C18_e2e_udta_none_iff w hr width height md fast hok hfit mv hmv).mpr h
    unfold itemValues ilstOf
    rw [this]; rfl

/-! ## 3. language -/

theorem C18_e2e_mdhd_lang_be (ts dur : Nat) (lang : Option (List Nat)) :
    be (bMdhd ts dur lang).pre 20 2 = langCode (lang.getD [117, 110, 100]) := by
  unfold be
  rw [mdhd_drop20, List.take_left' (by simp)]
  exact (be_u16be _).trans (Nat.mod_eq_of_lt (Nat.lt_trans (langCode_lt _) (by decide)))

/-- every track the reader returns has a media header built by `bMdhd` with the configured
    language -/
theorem C18_e2e_tracks_mdhd (w : Writer) (hr : w.Reachable) (width height : Nat) (md : Option Metadata)
    (fast : Bool) (hok : (w.finalize width height md fast).2.res = .ok)
    (hfit : MoovFits w width height md fast) (mv : Movie)
    (hmv : parseMovie (fileOf w width height md fast) = some mv) :
    ∀ t ∈ mv.tracks, ∃ dur, t.mdhd = (bMdhd 90000 dur (md.bind (·.language))).pre := by
  obtain ⟨hd, -, -⟩ := e2e_tracks w hr width height md fast hok hfit mv hmv
  intro t ht
  rw [hd.tracks, tracksOf] at ht
  cases hau : w.audio with
  | none =>
    simp only [hau, List.mem_singleton] at ht
    exact ⟨_, by rw [ht]; rfl⟩
  | some tr =>
    simp only [hau, List.mem_cons, List.not_mem_nil, or_false] at ht
    rcases ht with rfl | rfl
    · exact ⟨_, rfl⟩
    · exact ⟨_, rfl⟩

/-- Language: in EVERY track the reader returns (video, and audio when configured) the `mdhd`
    payload carries at bytes 20–21 the packed code of the configured language ("und" when none is
    configured or no metadata was given): as raw bytes, as a big-endian field, and as a 16-bit
    read. -/
theorem C18_e2e_mdhd_lang (w : Writer) (hr : w.Reachable) (width height : Nat) (md : Option Metadata)
    (fast : Bool) (hok : (w.finalize width height md fast).2.res = .ok)
    (hfit : MoovFits w width height md fast) :
    let file := (w.finalize width height md fast).2.chunks.flatten
    let code := langCode ((md.bind (·.language)).getD [117, 110, 100])
    ∀ mv, parseMovie file = some mv → ∀ (i : Nat) (t : Track), mv.tracks[i]? = some t →
      (t.mdhd.drop 20).take 2 = u16be code ∧ be t.mdhd 20 2 = code ∧ code < 2^15 ∧
      ∃ rest, readU16 (t.mdhd.drop 20) = some (code, rest) := by
  intro file code mv hmv i t ht
  obtain ⟨dur, e⟩ := C18_e2e_tracks_mdhd w hr width height md fast hok hfit mv hmv t (List.mem_of_getElem? ht)
  rw [e]
  exact ⟨C18.C18_mdhd_lang _ _ _, C18_e2e_mdhd_lang_be _ _ _, langCode_lt _, C18.C18_mdhd_read _ _ _⟩

/-- … so a configured language of three lower-case ASCII letters is recovered from every track
    by unpacking the 15-bit field (`C18_lang`). -/
theorem C18_e2e_lang_roundtrip (w : Writer) (hr : w.Reachable) (width height : Nat) (m : Metadata)
    (fast : Bool) (hok : (w.finalize width height (some m) fast).2.res = .ok)
    (hfit : MoovFits w width height (some m) fast) (a b c : Nat) (hl : m.language = some [a, b, c])
    (ha : 97 ≤ a ∧ a ≤ 122) (hb : 97 ≤ b ∧ b ≤ 122) (hc : 97 ≤ c ∧ c ≤ 122) :
    let file := (w.finalize width height (some m) fast).2.chunks.flatten
    ∀ mv, parseMovie file = some mv → ∀ (i : Nat) (t : Track), mv.tracks[i]? = some t →
      unpackLang (be t.mdhd 20 2) = [a, b, c] := by
  intro file mv hmv i t ht
  obtain ⟨-, h, -⟩ := C18_e2e_mdhd_lang w hr width height (some m) fast hok hfit mv hmv i t ht
  rw [h]
  simp only [Option.bind_some, hl, Option.getD_some]
  exact C18.C18_lang a b c ha.1 ha.2 hb.1 hb.2 hc.1 hc.2

/-- without a configured language every track reads back "und" -/
theorem C18_e2e_lang_default (w : Writer) (hr : w.Reachable) (width height : Nat) (md : Option Metadata)
    (fast : Bool) (hok : (w.finalize width height md fast).2.res = .ok)
    (hfit : MoovFits w width height md fast) (hl : md.bind (·.language) = none) :
    let file := (w.finalize width height md fast).2.chunks.flatten
    ∀ mv, parseMovie file = some mv → ∀ (i : Nat) (t : Track), mv.tracks[i]? = some t →
      unpackLang (be t.mdhd 20 2) = [117, 110, 100] := by
  intro file mv hmv i t ht
  obtain ⟨-, h, -⟩ := C18_e2e_mdhd_lang w hr width height md fast hok hfit mv hmv i t ht
  rw [h, hl]
  exact C18.C18_lang_default

/-! ## Corner: a language longer than three scalar values, or outside `a`–`z`

  `langCode` keeps the first three scalar values and packs `(x − 0x60) mod 32` of each; the
  round trip of `C18_e2e_lang_roundtrip` therefore needs exactly three lower-case ASCII letters.
  For other strings the field is still the `langCode` of the configured value (the theorem
  `C18_e2e_mdhd_lang` has no side condition), but unpacking does not give the string back:
  "FRA" reads back as three 0x60 bytes, "fran" as "fra", "fr" as "frd" (padded from "und"). -/
theorem C18_e2e_lang_uppercase_counterexample :
    unpackLang (langCode [70, 82, 65]) = [96, 96, 96] ∧
    unpackLang (langCode [102, 114, 97, 110]) = [102, 114, 97] ∧
    unpackLang (langCode [102, 114]) = [102, 114, 100] := by decide

/-! ## Non-vacuity -/
namespace Example
open Muxide.Props.C01E2E.Example

/-- the example writer of C01E2E, finalised without metadata, both layouts: the reader finds no
    user data, and both tracks' media headers carry "und" (0x55C4) -/
example (fast : Bool) : ∃ mv, parseMovie (wE.finalize 640 480 none fast).2.chunks.flatten = some mv ∧
    mv.udta = none ∧ itemValues mv namType = none ∧ mv.tracks.length = 2 ∧
    ∀ (i : Nat) (t : Track), mv.tracks[i]? = some t → be t.mdhd 20 2 = 0x55C4 ∧ unpackLang (be t.mdhd 20 2) = [117, 110, 100] := by
  obtain ⟨mv, hmv, hl⟩ := C01_e2e_parses wE wE_reachable 640 480 none fast (wE_ok fast) (wE_fits fast)
  refine ⟨mv, hmv, ?_, ?_, by rw [hl, wE_au]; rfl, ?_⟩
  · exact (C18_e2e_udta_none_iff wE wE_reachable 640 480 none fast (wE_ok fast) (wE_fits fast) mv hmv).mpr (.inl rfl)
  · exact (C18_e2e_title wE wE_reachable 640 480 none fast (wE_ok fast) (wE_fits fast) mv hmv).2 (.inl rfl)
  · intro i t ht
    obtain ⟨-, h, -⟩ := C18_e2e_mdhd_lang wE wE_reachable 640 480 none fast (wE_ok fast) (wE_fits fast) mv hmv i t ht
    refine ⟨by rw [h]; decide, ?_⟩
    exact C18_e2e_lang_default wE wE_reachable 640 480 none fast (wE_ok fast) (wE_fits fast) rfl mv hmv i t ht

/-- a fresh writer finalised WITH metadata (title "Hi", creation time 86 400 s, language "fra"),
    by evaluation of the reader on the written box tree: the title item holds "Hi", the day item
    "1970-01-02T00:00:00Z", and the media header the packed "fra" -/
theorem C18_e2e_metadata_example :
    let w : Writer := { codec := .h264 }
    let md : Option Metadata := some { title := some [72, 105], ctime := some 86400, language := some [102, 114, 97] }
    let file := (w.finalize 16 16 md false).2.chunks.flatten
    (w.finalize 16 16 md false).2.res = .ok ∧
    (parseMovie file).bind (itemValues · namType) = some [some [72, 105]] ∧
    (parseMovie file).bind (itemValues · dayType) =
      some [some [49, 57, 55, 48, 45, 48, 49, 45, 48, 50, 84, 48, 48, 58, 48, 48, 58, 48, 48, 90]] ∧
    (parseMovie file).map (fun mv => mv.tracks.map fun t => unpackLang (be t.mdhd 20 2)) = some [[102, 114, 97]] := by
  intro w md file
  have hok : (w.finalize 16 16 md false).2.res = .ok := by decide +kernel
  obtain ⟨h1, h2⟩ := written_tree w 16 16 md false hok nofun (by unfold MoovFits; decide +kernel)
  refine ⟨hok, ?_⟩
  rw [show parseMovie file = _ from parseMovie_of_top h1 h2]
  decide +kernel

/-- the same instance through the theorems: hypotheses are satisfiable with metadata present -/
example :
    let w : Writer := { codec := .h264 }
    let m : Metadata := { title := some [72, 105], ctime := some 86400, language := some [102, 114, 97] }
    ∃ mv, parseMovie (w.finalize 16 16 (some m) false).2.chunks.flatten = some mv ∧
      itemValues mv namType = some [some [72, 105]] ∧
      itemValues mv dayType = some [some (formatTimestamp 86400)] := by
  intro w m
  have hr : w.Reachable := .init .h264 none
  have hok : (w.finalize 16 16 (some m) false).2.res = .ok := by decide +kernel
  have hfit : MoovFits w 16 16 (some m) false := by
    unfold MoovFits; decide +kernel
  obtain ⟨mv, hmv, -⟩ := e2e_full w hr 16 16 (some m) false hok hfit
  refine ⟨mv, hmv, ?_, ?_⟩
  · exact (C18_e2e_title w hr 16 16 (some m) false hok hfit mv hmv).1 m rfl (.inl (by simp [m]))
  · exact (C18_e2e_day w hr 16 16 (some m) false hok hfit mv hmv).1 m rfl (.inl (by simp [m]))
end Example

end Muxide.Props.C18E2E
