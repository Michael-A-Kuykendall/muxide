import Muxide.Checked.AnnexB
/-
  C12 (checked models, H.265) — `hevc_nal_type`, `extract_hevc_config` (INV-501, INV-502) and
  `is_hevc_keyframe` (INV-503, INV-504) over the checked NAL iterator.
-/
namespace Muxide.Checked
open Muxide

/-- `hevc_nal_type`: `nal[0]` behind `is_empty`, then `assert_invariant!(nal_type <= 63)` at the callers -/
def hevcNalTypeC (n : Bytes) : M Nat :=
  if n = [] then .ok 0 else
  match getC n 0 with
  | .error e => .error e
  | .ok b => if b.toNat / 2 % 64 ≤ 63 then .ok (b.toNat / 2 % 64) else .error ()

theorem hevcNalTypeC_eq (n : Bytes) : hevcNalTypeC n = .ok (hevcNalType n) := by
  cases n with
  | nil => rfl
  | cons b r =>
    have : b.toNat / 2 % 64 ≤ 63 := by omega
    simp [hevcNalTypeC, getC, hevcNalType, this]

/-- the update of (vps, sps, pps) by one non-empty unit of type `t` -/
def hevcPick (t : Nat) (n : Bytes) (v s p : Option Bytes) : Option Bytes × Option Bytes × Option Bytes :=
  if t = 32 ∧ v.isNone then (some n, s, p)
  else if t = 33 ∧ s.isNone then (v, some n, p)
  else if t = 34 ∧ p.isNone then (v, s, some n)
  else (v, s, p)

def hevcScanC : List Bytes → Option Bytes → Option Bytes → Option Bytes → M (Option Bytes × Option Bytes × Option Bytes)
  | [], v, s, p => .ok (v, s, p)
  | n :: ns, v, s, p =>
    if n = [] then hevcScanC ns v s p else
    match hevcNalTypeC n with
    | .error e => .error e
    | .ok t =>
      let q := hevcPick t n v s p
      if q.1.isSome ∧ q.2.1.isSome ∧ q.2.2.isSome then .ok q else hevcScanC ns q.1 q.2.1 q.2.2

theorem hevcScan_cons (n : Bytes) (ns : List Bytes) (v s p : Option Bytes) (hn : n ≠ []) :
    hevcScan (n :: ns) v s p =
      (let q := hevcPick (hevcNalType n) n v s p
       if q.1.isSome ∧ q.2.1.isSome ∧ q.2.2.isSome then q else hevcScan ns q.1 q.2.1 q.2.2) := by
  rw [hevcScan, if_neg hn]; rfl

theorem hevcScanC_eq (ns : List Bytes) (v s p : Option Bytes) : hevcScanC ns v s p = .ok (hevcScan ns v s p) := by
  induction ns generalizing v s p with
  | nil => rfl
  | cons n ns ih =>
    by_cases hn : n = []
    · rw [hn, hevcScanC, hevcScan, if_pos rfl, if_pos rfl]; exact ih v s p
    · rw [hevcScanC, if_neg hn, hevcNalTypeC_eq n, hevcScan_cons n ns v s p hn]
      exact guard_ok fun _ => ih _ _ _

theorem hevcScan_nonempty (ns : List Bytes) (v s p : Option Bytes)
    (hv : ∀ x, v = some x → x ≠ []) (hs : ∀ x, s = some x → x ≠ []) (hp : ∀ x, p = some x → x ≠ []) :
    (∀ x, (hevcScan ns v s p).1 = some x → x ≠ []) ∧ (∀ x, (hevcScan ns v s p).2.1 = some x → x ≠ []) ∧
    (∀ x, (hevcScan ns v s p).2.2 = some x → x ≠ []) := by
  rw [hevcScan_eq]
  exact ⟨or_firstOfType_ne_nil hv, or_firstOfType_ne_nil hs, or_firstOfType_ne_nil hp⟩

/-- `extract_hevc_config`, including INV-502 -/
def extractHevcC (d : Bytes) : M (Option HevcConfig) :=
  if d = [] then .ok none else
  match nalsC d with
  | .error e => .error e
  | .ok ns =>
    match hevcScanC ns none none none with
    | .error e => .error e
    | .ok (some v, some s, some p) => if v ≠ [] ∧ s ≠ [] ∧ p ≠ [] then .ok (some ⟨v, s, p⟩) else .error ()
    | .ok _ => .ok none

/-- `extract_hevc_config`: `nal[0]` only from non-empty units, INV-501 and INV-502 never fire -/
theorem C12_checked_extract_hevc (d : Bytes) (hd : SliceLen d) : extractHevcC d = .ok (extractHevc d) := by
  unfold extractHevcC extractHevc
  refine guard_ok fun _ => ?_
  rw [nalsC_eq d hd]
  simp only [hevcScanC_eq]
  have hne := hevcScan_nonempty (nals d) none none none (by simp) (by simp) (by simp)
  match hevcScan (nals d) none none none, hne with
  | (some v, some s, some p), hne => exact if_pos ⟨hne.1 _ rfl, hne.2.1 _ rfl, hne.2.2 _ rfl⟩
  | (none, _, _), _ | (some _, none, _), _ | (some _, some _, none), _ => rfl

/-- `is_hevc_keyframe`, including INV-503 / INV-504 -/
def isHevcKeyframeC (d : Bytes) : M Bool :=
  if d = [] then .ok false else
  match nalsC d with
  | .error e => .error e
  | .ok ns =>
    ns.foldr (fun n acc =>
      if n = [] then acc else
      match hevcNalTypeC n with
      | .error e => .error e
      | .ok t => if isHevcKeyNalType t then .ok true else acc) (.ok false)

theorem hevcKeyFold_eq (ns : List Bytes) :
    ns.foldr (fun n acc =>
      if n = [] then acc else
      match hevcNalTypeC n with
      | .error e => .error e
      | .ok t => if isHevcKeyNalType t then .ok true else acc) (.ok false)
    = (.ok (ns.any fun n => n ≠ [] && isHevcKeyNalType (hevcNalType n)) : M Bool) := by
  induction ns with
  | nil => rfl
  | cons n ns ih =>
    rw [List.foldr_cons, ih, List.any_cons]
    by_cases hn : n = []
    · simp [hn]
    · simp only [hn, if_false, hevcNalTypeC_eq]
      by_cases hk : isHevcKeyNalType (hevcNalType n) = true <;> simp [hk, hn]

/-- `is_hevc_keyframe` = the detection the rest of the model uses (`detectKeyframe .h265`) -/
theorem C12_checked_is_hevc_keyframe (d : Bytes) (hd : SliceLen d) :
    isHevcKeyframeC d = .ok ((nals d).any fun n => n ≠ [] && isHevcKeyNalType (hevcNalType n)) := by
  unfold isHevcKeyframeC
  by_cases h : d = []
  · subst h; rfl
  · rw [if_neg h, nalsC_eq d hd]
    exact hevcKeyFold_eq (nals d)

end Muxide.Checked
