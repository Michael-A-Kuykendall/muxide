import Muxide.Props.C04
import Muxide.Props.C12Date
import Muxide.Props.C10
/-
  C12 — No public entry point panics, overflows or hangs on any input.

  What a theorem about the model can carry: (1) the model marks every `panic!`, `assert_invariant!`,
  failed index, division and checked-arithmetic site of the Rust code that depends on state or
  input as a `.panic` outcome (see `moovPanics`, `Reply.panic`, `FReply.panic`); the theorems
  below show that NO reachable state and NO input produces such an outcome; (2) loop bounds:
  every loop of the modelled code runs a number of iterations bounded by the input length or by a
  constant. What it cannot carry (labelled partial, covered by the correspondence run with
  overflow checks, `catch_unwind` and a watchdog on the real library): allocation failure,
  `format!`/hex-dump code, clap, and arithmetic the model does on unbounded `Nat`.
-/
namespace Muxide.Props.C12
open Muxide Muxide.Spec Muxide.Props.C04 Muxide.Props.C05

/-- `finish` / `finish_with_stats` never panic in a state that satisfies the API invariant, for
    any sink behaviour -/
theorem C12_finish_no_panic {m : Muxer} {h : AbsHist} (hinv : Inv m h) (d : Deliver) :
    (m.finishStats d).2.2 ≠ .panic ∧ (m.finish d).2.2 ≠ .panic := by
  -- a `panic` reply can only pass on a panic of `finalize`, which the invariant excludes
  have key : (m.finishStats d).2.2 ≠ .panic := by
    cases hf : m.finished with
    | true => rw [m.finishStats_finished d hf]; nofun
    | false => rw [m.finishStats_eq d hf]; exact fun hp => hinv.finalize_ne_panic (finishReply_eq_panic hp)
  refine ⟨key, ?_⟩
  rw [Muxer.finish_eq]
  cases hr : (m.finishStats d).2.2 <;> simp [Reply.dropStats, hr] at key ⊢

/-- **No API call panics, in any reachable state, for any arguments**: every reply in every run
    of every call list from `build cfg` is different from `.panic`. -/
theorem C12_api_no_panic (cfg : Config) (cs : List Call) :
    ∀ r ∈ (run (build cfg) cs).2, r ≠ Reply.panic := by
  have hinv := C04_inv_init cfg
  generalize build cfg = m, initHist cfg = h at hinv ⊢
  induction cs generalizing m h with
  | nil => exact fun _ hr => nomatch hr
  | cons c cs ih =>
    intro r hr
    rw [run_cons] at hr
    rcases List.mem_cons.mp hr with rfl | hr'
    · cases c with
      | fin => exact (C12_finish_no_panic hinv deliverAll).2
      | fins => exact (C12_finish_no_panic hinv deliverAll).1
      | _ => exact C05_write_no_panic m _ rfl
    · exact ih _ _ (C04_inv_step hinv c) r hr'

/-- the fragmented muxer's operations never produce a panic outcome either -/
theorem C12_frag_no_panic (f : Frag) (pts dts : Nat) (d : Bytes) (s : Bool) :
    (f.write pts dts d s).2 ≠ .panic ∧ f.flush.2 ≠ .panic ∧ f.ready ≠ .panic ∧ f.durMs ≠ .panic ∧ f.init.2 ≠ .panic := by
  refine ⟨?_, ?_, ?_, ?_, ?_⟩
  · by_cases h : Rejects f dts
    · rw [write_reject f pts dts d s h]; nofun
    · rw [write_accept f pts dts d s h]; nofun
  · by_cases h : f.samples = []
    · rw [flush_nil f h]; nofun
    · rw [flush_ne_nil f h]; nofun
  · unfold Frag.ready; split <;> simp
  · simp [Frag.durMs]
  · unfold Frag.init; split <;> simp

/-- the readiness arithmetic is total: a zero timescale gives 0 ms and the result never exceeds u64 -/
theorem C12_frag_span_total (f : Frag) : f.spanMs ≤ u64Max := by
  unfold Frag.spanMs
  split
  · exact Nat.zero_le _
  · dsimp only
    split
    · exact Nat.zero_le _
    · exact Nat.min_le_right _ _

/-- loop bounds ("promptly"): the Annex B scanner examines at most one position per input byte
    over a whole iteration of the NAL iterator, and yields at most a third as many units -/
theorem C12_scanner_linear (fuel : Nat) (d : Bytes) : Muxide.Props.C14.iterSteps fuel d ≤ d.length ∧ 3 * (nals d).length ≤ d.length :=
  ⟨Muxide.Props.C14.C14_iter_steps fuel d, Muxide.Props.C14.C14_nals_count d⟩

/-- … and the creation-date year loop runs at most 400 times for every Unix time -/
theorem C12_date_loop_bound (days : Nat) :
    yearLoopSteps 401 (1970 + 400 * (days / 146097)) (days % 146097) ≤ 400 :=
  Muxide.Props.C12Date.C12_year_loop_bound days

end Muxide.Props.C12
