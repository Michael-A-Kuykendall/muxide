import Muxide.Props.C10
/-
  C11 — Fragment timing: per-sample durations, composition offsets and sync flags inside a media
  segment are the submitted ones; base decode times never move backwards and are never earlier than
  the previous segment's last sample; the init segment is always the same bytes.
  Helper lemmas live in Muxide/Lemmas/Frag.lean and FragRead.lean.
-/
namespace Muxide.Props.C11
open Muxide Muxide.Spec Muxide.Props.C10

/-! ### the rows of the trun -/

/-- layout of the trun payload the model writes: flags 0x000F01 (data offset, duration, size,
    flags, composition offset present), version 1 (signed offsets), count, data offset, then one
    16-byte row per sample -/
theorem C11_trun_layout (ss : List FSample) (off : Nat) :
    (fTrun ss off).pre = u32be 0x01000F01 ++ u32be ss.length ++ u32be off ++
      (List.zip (List.range ss.length) ss).flatMap fun (i, s) =>
        u32be (trunDuration ss i) ++ u32be s.data.length ++
        u32be (if s.sync then 0x02000000 else 0x01010000) ++ i32be (ctsWrap s.pts s.dts) := rfl

/-- `ctsWrap` (the model of `(pts as i64).wrapping_sub(dts as i64) as i32`) is the exact difference
    whenever it fits a signed 32-bit field -/
theorem C11_cts_exact (pts dts : Nat) (h1 : -2^31 ≤ (pts : Int) - dts) (h2 : (pts : Int) - dts < 2^31) :
    ctsWrap pts dts = (pts : Int) - dts :=
  toI32_i32 _ h1 h2

/-- the sample-flags word has its non-sync bit (bit 16) set exactly when the sample is not sync -/
theorem C11_flags (sync : Bool) : nonSync (if sync then 0x02000000 else 0x01010000) = !sync := by
  cases sync <;> decide

/-- the duration the model writes for every sample but the last is the (truncated) difference of
    consecutive submitted decode times -/
theorem C11_duration (ss : List FSample) (i : Nat) (h : i + 1 < ss.length) :
    trunDuration ss i = ss[i + 1].dts - ss[i].dts := by
  simp [trunDuration, h, (by omega : i < ss.length)]

/-- **Rows as read back**: under the size bounds of `C10_bytes`, the independent reader finds one
    trun row per sample, and row i carries
    * size = the sample's byte length,
    * composition offset = `ctsWrap pts dts` (= pts − dts when that fits an i32, `C11_cts_exact`),
    * a flags word whose non-sync bit is the negation of the submitted sync flag,
    * for i + 1 < n and non-decreasing decode times (guaranteed for accepted writes,
      `C10_accepted_sorted`) with a difference below 2^32: duration = dts_{i+1} − dts_i. -/
theorem C11_rows (ss : List FSample) (q b : Nat)
    (h1 : (fMoof ss q b 0).ser.length + 8 < 2^31)
    (h2 : 8 + (ss.map (·.data.length)).sum < 2^32) (hb : b < 2^64)
    (i : Nat) (hi : i < ss.length) :
    ∃ seg r fl, parseSegment (buildSegment ss q b) = some seg ∧ seg.rows.length = ss.length ∧
      seg.rows[i]? = some r ∧
      r.size = some ss[i].data.length ∧
      r.cto = some (ctsWrap ss[i].pts ss[i].dts) ∧
      r.flags = some fl ∧ nonSync fl = !ss[i].sync ∧
      (∀ (h : i + 1 < ss.length), ss[i].dts ≤ ss[i + 1].dts → ss[i + 1].dts - ss[i].dts < 2^32 →
        r.duration = some (ss[i + 1].dts - ss[i].dts)) := by
  rw [fMoof_ser_length] at h1
  have hp := parseSegment_buildSegment ss q b (by omega) h2 hb
  refine ⟨_, specRow ss i ss[i], _, hp, by simp, by simp [hi],
    specRow_size h2 ss i (List.getElem_mem hi), rfl, rfl, C11_flags _, ?_⟩
  · intro h _ hd
    simp only [specRow]
    rw [C11_duration ss i h, Nat.mod_eq_of_lt hd]

/-! ### base decode times -/

/-- dts of the last sample of a list -/
abbrev lastDts (ss : List FSample) : Nat := lastDtsOf ss

/-- the base decode time written into the k-th segment is its first sample's submitted dts; the
    constant-interval clause ("base = first sample's dts minus one stream-wide constant") holds
    with the constant 0, for every input -/
theorem C11_tfdt_first (c : FragConfig) (ops : List FOp) :
    ∃ c0 : Nat, ∀ (k : Nat) (ss : List FSample), (emitted (start c) ops)[k]? = some ss → k + 1 < 2^32 →
      ∃ s, ss.head? = some s ∧
        (segments (start c) ops)[k]? = some (buildSegment ss (k + 1) (s.dts - c0)) := by
  refine ⟨0, fun k ss h hk => ?_⟩
  obtain ⟨hne, hs⟩ := C10_seq c ops k ss h hk
  cases ss with
  | nil => exact absurd rfl hne
  | cons s rest => exact ⟨s, rfl, by simpa [firstDts] using hs⟩

/-- all emitted samples, in emission order, have non-decreasing decode times -/
theorem emitted_sorted (c : FragConfig) (ops : List FOp) :
    (emitted (start c) ops).flatten.Pairwise (fun a b => a.dts ≤ b.dts) := by
  have h := C10_accepted_sorted c ops
  rw [← C10_conserve c ops] at h
  exact (List.pairwise_append.mp h).1

theorem firstDts_mem (ss : List FSample) (h : ss ≠ []) : ∃ s ∈ ss, firstDts ss = s.dts := by
  cases ss with
  | nil => exact absurd rfl h
  | cons s rest => exact ⟨s, by simp, by simp [firstDts]⟩

theorem lastDts_mem (ss : List FSample) (h : ss ≠ []) : ∃ s ∈ ss, lastDts ss = s.dts := by
  refine ⟨ss.getLast h, List.getLast_mem h, ?_⟩
  simp [lastDts, lastDtsOf, List.getLast?_eq_some_getLast h]

/-- **Base decode times across segments**: for segments j < k of any run (bases are the first
    samples' dts by `C11_tfdt_first` / `C10_seq`),
    (i) base_j ≤ base_k — the base never moves backwards;
    (ii) dts of the last sample of segment j ≤ base_k — never earlier than the previous segment's
    last sample; and base_j + Σ (durations of all but the last sample of segment j) is exactly
    that last sample's dts. -/
theorem C11_tfdt (c : FragConfig) (ops : List FOp) (j k : Nat) (a b : List FSample) (hjk : j < k)
    (ha : (emitted (start c) ops)[j]? = some a) (hb : (emitted (start c) ops)[k]? = some b) :
    firstDts a ≤ firstDts b ∧ lastDts a ≤ firstDts b ∧
    firstDts a + ((List.range (a.length - 1)).map (trunDuration a)).sum = lastDts a := by
  obtain ⟨hin, hx⟩ := List.pairwise_flatten.mp (emitted_sorted c ops)
  have hane : a ≠ [] := emitted_ne_nil _ _ a (List.mem_of_getElem? ha)
  have hbne : b ≠ [] := emitted_ne_nil _ _ b (List.mem_of_getElem? hb)
  -- every sample of `a` comes before every sample of `b`
  have hab : ∀ x ∈ a, ∀ y ∈ b, x.dts ≤ y.dts := by
    obtain ⟨hj, rfl⟩ := List.getElem?_eq_some_iff.mp ha
    obtain ⟨hk, rfl⟩ := List.getElem?_eq_some_iff.mp hb
    exact List.pairwise_iff_getElem.mp hx j k hj hk hjk
  obtain ⟨fa, hfa, efa⟩ := firstDts_mem a hane
  obtain ⟨la, hla, ela⟩ := lastDts_mem a hane
  obtain ⟨fb, hfb, efb⟩ := firstDts_mem b hbne
  refine ⟨?_, ?_, trun_span a (hin a (List.mem_of_getElem? ha))⟩
  · rw [efa, efb]; exact hab fa hfa fb hfb
  · rw [ela, efb]; exact hab la hla fb hfb

/-- as seen by the reader: the `tfdt` of the k-th segment is its first sample's submitted dts
    (under the size bounds of `C10_bytes`) -/
theorem C11_tfdt_read (c : FragConfig) (ops : List FOp) (k : Nat) (ss : List FSample)
    (h : (emitted (start c) ops)[k]? = some ss) (hk : k + 1 < 2^32)
    (h1 : 96 + 16 * ss.length < 2^31) (h2 : 8 + (ss.map (·.data.length)).sum < 2^32)
    (hb : firstDts ss < 2^64) :
    ∃ bytes seg, (segments (start c) ops)[k]? = some bytes ∧ parseSegment bytes = some seg ∧
      seg.tfdt = firstDts ss := by
  obtain ⟨bytes, seg, h1, h2, _, h4, _⟩ := C10_run_bytes c ops k ss h hk h1 h2 hb
  exact ⟨bytes, seg, h1, h2, h4⟩

/-! ### the init segment -/

/-- **Init segment**: in any run, every `init` request is answered with the same bytes
    `buildInit c` — no matter when or how often it is requested — and no other operation ever
    returns an init reply. -/
theorem C11_init (c : FragConfig) (ops : List FOp) (i : Nat) (op : FOp) (r : FReply)
    (hop : ops[i]? = some op) (hr : (runF (start c) ops).2[i]? = some r) :
    (op = .init → r = .init (buildInit c)) ∧ (∀ b, r = .init b → op = .init ∧ b = buildInit c) := by
  have := run_init (start c) ops nofun i op r hop hr
  simpa [start] using this

/-- the init bytes depend on the configuration only -/
theorem C11_init_bytes (c : FragConfig) : buildInit c = fFtyp.ser ++ (fMoov c).ser := rfl

end Muxide.Props.C11
