import Muxide.Generated.Schedule
import Muxide.Lemmas.Schedule
import Muxide.Lemmas.WriterInv
/-
  C15 (mechanical tie) — Muxide.Generated.Schedule is produced by tools/rs2lean_sched.py from the Rust source of
  `Mp4Writer::compute_interleave_schedule` on every check run: one entry per video sample keyed by its decode
  time, one per audio sample keyed by its presentation time, sorted by (time, track kind, index) with video
  before audio.  The theorem states that the translated function is the model's `schedule` whenever audio
  samples have dts = pts (which every reachable writer guarantees), so C15_perm, C15_merge, C15_unique and the
  end-to-end C15_e2e are statements about the translated source.
-/
namespace Muxide.Props.C15Generated
open Muxide Muxide.Generated.Schedule

/-- a translated entry (time, kind, index) as a model entry -/
def toEnt (x : Nat × TrackKind × Nat) : Ent :=
  ⟨x.1, (match x.2.1 with | .video => 0 | .audio => 1), x.2.2⟩

theorem toEnt_injective : Function.Injective toEnt := by
  intro a b h
  obtain ⟨t, k, i⟩ := a
  obtain ⟨t', k', i'⟩ := b
  simp only [toEnt, Ent.mk.injEq] at h
  obtain ⟨h1, h2, h3⟩ := h
  cases k <;> cases k' <;> simp_all

/-- `compute_interleave_schedule` is the model's schedule (entry for entry) when audio decode time = pts -/
theorem C15_gen_schedule (vs aus : List Sample) (ha : ∀ s ∈ aus, s.pts = s.dts) :
    (compute_interleave_schedule vs aus).map toEnt = schedule vs aus := by
  symm
  apply schedule_unique
  · -- a permutation of the entries of both tracks
    unfold compute_interleave_schedule
    refine (List.Perm.map toEnt (List.mergeSort_perm _ _)).trans ?_
    simp only [List.nil_append, List.map_append, List.map_map]
    apply List.Perm.of_eq
    congr 1
    unfold entsOf
    apply List.map_congr_left
    intro p hp
    obtain ⟨i, sm⟩ := p
    have : sm ∈ aus := (List.of_mem_zip hp).2
    simp only [Function.comp, toEnt]
    rw [ha sm this]
  · -- sorted by the model's order: with the sort key in projection form (`simp`), the translated
    -- comparison of `a` and `b` unfolds to `Ent.le (toEnt a) (toEnt b)`
    unfold compute_interleave_schedule
    simp only [List.nil_append]
    rw [List.pairwise_map]
    refine (List.pairwise_mergeSort ?_ ?_ _).imp fun h => h
    · exact fun a b c => Ent.le_trans (toEnt a) (toEnt b) (toEnt c)
    · exact fun a b => Ent.le_total (toEnt a) (toEnt b)

/-- for every writer state the API can reach, the translated function computes the model's schedule -/
theorem C15_gen_schedule_reachable (w : Writer) (hr : w.Reachable) :
    (compute_interleave_schedule w.vsRev.reverse w.asRev.reverse).map toEnt =
      schedule w.vsRev.reverse w.asRev.reverse :=
  C15_gen_schedule _ _ hr.inv.ordered.2.2.1

end Muxide.Props.C15Generated
