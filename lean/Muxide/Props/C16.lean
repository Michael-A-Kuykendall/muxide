import Muxide.Lemmas.Records
import Muxide.Lemmas.Fields
import Muxide.Props.C03
/-
  C16 — every fixed-width numeric field the muxer writes holds the exact mathematical value implied
  by the input; a value that does not fit its field makes the producing operation fail instead of
  being written wrapped or clipped.
  1. the integer encodings read back as the value modulo the field width — exact iff in range;
  2. the sample tables decode (Muxide.Spec.Reader) to exactly the tables handed to the builders
     when the entries are in range;
  3. guards: in every reachable writer state on which `finalize` succeeds, every value handed to a
     32-bit / signed 32-bit / 16-bit field is in range; out-of-range inputs are rejected with an
     error and leave the writer unchanged.
  Helper lemmas live in Muxide/Lemmas/Records.lean and Fields.lean.
  (Recorded exceptions, proved elsewhere: the AAC sample entry's 16.16 rate wraps for rates
  ≥ 65536 — `C07_audio_rate_counterexample`.)
-/
namespace Muxide.Props.C16
open Muxide Muxide.Spec Box

/-! ## 1. field exactness -/

/-- a field that reads back modulo `M` is exact precisely for the values below `M` -/
theorem exact_iff_lt {M n : Nat} {r : Bytes} {x : Option (Nat × Bytes)} (h : x = some (n % M, r))
    (hM : 0 < M) : x = some (n, r) ↔ n < M := by
  rw [h, Option.some.injEq, Prod.mk.injEq, and_iff_left rfl]
  exact ⟨fun e => e ▸ Nat.mod_lt n hM, Nat.mod_eq_of_lt⟩

/-- a 32-bit field reads back as the value modulo 2^32, for every value -/
theorem C16_u32_field (n : Nat) (r : Bytes) : readU32 (u32be n ++ r) = some (n % 2^32, r) :=
  readU32_u32be_mod n r

/-- … so the field is exact precisely when the value is below 2^32 -/
theorem C16_u32_exact_iff (n : Nat) (r : Bytes) : readU32 (u32be n ++ r) = some (n, r) ↔ n < 2^32 :=
  exact_iff_lt (C16_u32_field n r) (by decide)

theorem C16_u16_field (n : Nat) (r : Bytes) : readU16 (u16be n ++ r) = some (n % 2^16, r) :=
  readU16_u16be_mod n r

theorem C16_u16_exact_iff (n : Nat) (r : Bytes) : readU16 (u16be n ++ r) = some (n, r) ↔ n < 2^16 :=
  exact_iff_lt (C16_u16_field n r) (by decide)

theorem C16_u64_field (n : Nat) (r : Bytes) : readU64 (u64be n ++ r) = some (n % 2^64, r) :=
  readU64_u64be_mod n r

theorem C16_u64_exact_iff (n : Nat) (r : Bytes) : readU64 (u64be n ++ r) = some (n, r) ↔ n < 2^64 :=
  exact_iff_lt (C16_u64_field n r) (by decide)

/-- a signed 32-bit field reads back as the value wrapped into [-2^31, 2^31) -/
theorem C16_i32_field (z : Int) (r : Bytes) :
    (readU32 (i32be z ++ r)).map (fun (x, r) => (toI32 x, r)) = some ((z + 2^31) % 2^32 - 2^31, r) := by
  rw [i32be, readU32_u32be _ (i32_pattern_lt z)]
  simp only [Option.map_some, toI32_wrap]

theorem C16_i32_exact_iff (z : Int) (r : Bytes) :
    (readU32 (i32be z ++ r)).map (fun (x, r) => (toI32 x, r)) = some (z, r) ↔ -(2^31 : Int) ≤ z ∧ z < 2^31 := by
  rw [C16_i32_field]
  simp only [Option.some.injEq, Prod.mk.injEq, and_true]
  omega

/-- one byte -/
theorem C16_u8_field (n : Nat) : (u8 n).toNat = n % 256 := by simp [u8, UInt8.toNat_ofNat']

/-! ## 2. table exactness

  Each table decoder of Spec/Reader.lean is a chain of `Option` binds: version/flags word, entry count, the entries,
  nothing left over.  `bind_step` feeds it the read-back fact of each piece the builder appended, in that order. -/

/-- a count-prefixed table of 32-bit entries, the payload of `stco` and of `stss` -/
theorem u32Table (xs : List Nat) (h : ∀ x ∈ xs, x < 2^32) (hl : xs.length < 2^32) :
    decodeU32Table (u32be 0 ++ u32be xs.length ++ xs.flatMap u32be) = some xs := by
  rw [List.append_assoc]
  unfold decodeU32Table
  refine bind_step (fullBox_u32be 0 (by decide) _) ?_
  refine bind_step (readU32_u32be xs.length hl _) ?_
  exact bind_step (List.append_nil _ ▸ readU32s_flatMap xs [] h) rfl

/-- chunk offsets -/
theorem C16_stco (offs : List Nat) (h : ∀ o ∈ offs, o < 2^32) (hl : offs.length < 2^32) :
    decodeU32Table (bStco offs).pre = some offs := u32Table offs h hl

/-- sync-sample numbers (same layout) -/
theorem C16_stss (keys : List Nat) (h : ∀ k ∈ keys, k < 2^32) (hl : keys.length < 2^32) :
    decodeU32Table (bStss keys).pre = some keys := u32Table keys h hl

/-- sample sizes (per-sample form: uniform size 0) -/
theorem C16_stsz (sizes : List Nat) (h : ∀ s ∈ sizes, s < 2^32) (hl : sizes.length < 2^32) :
    decodeStsz (bStsz sizes).pre = some sizes := by
  simp only [bStsz, leaf, Box.pre, List.append_assoc]
  unfold decodeStsz
  refine bind_step (fullBox_u32be 0 (by decide) _) ?_
  refine bind_step (readU32_u32be 0 (by decide) _) ?_
  refine bind_step (readU32_u32be sizes.length hl _) ?_
  exact bind_step (List.append_nil _ ▸ readU32s_flatMap sizes [] h) rfl

/-- decode-time runs: the decoded table is the run-length table of the durations -/
theorem C16_stts (ds : List Nat) (h : ∀ d ∈ ds, d < 2^32) (hl : ds.length < 2^32) :
    decodeStts (bStts ds).pre = some (rle ds) := by
  have hlen : (rle ds).length < 2^32 := Nat.lt_of_le_of_lt (rle_length_le ds) hl
  have hes : ∀ e ∈ rle ds, e.1 < 2^32 ∧ e.2 < 2^32 := fun e he =>
    ⟨Nat.lt_of_le_of_lt (rle_count_le ds e he) hl, h _ (rle_value_mem ds e he)⟩
  simp only [bStts, leaf, Box.pre, List.append_assoc]
  unfold decodeStts
  refine bind_step (fullBox_u32be 0 (by decide) _) ?_
  refine bind_step (readU32_u32be _ hlen _) ?_
  exact bind_step (List.append_nil _ ▸ readPairs_flatMap (rle ds) [] hes) rfl

/-- … and expanding its runs gives back the per-sample durations -/
theorem C16_stts_expand (ds : List Nat) (h : ∀ d ∈ ds, d < 2^32) (hl : ds.length < 2^32) :
    (decodeStts (bStts ds).pre).map expandRuns = some ds := by
  rw [C16_stts ds h hl, Option.map_some, expandRuns_rle]

/-- composition offsets: version 1 (signed); the decoded table is the run-length table of the
    offsets when each fits an `i32` -/
theorem C16_ctts (os : List Int) (h : ∀ o ∈ os, -(2^31 : Int) ≤ o ∧ o < 2^31) (hl : os.length < 2^32) :
    decodeCtts (bCtts os).pre = some (rle os) := by
  have hlen : (rle os).length < 2^32 := Nat.lt_of_le_of_lt (rle_length_le os) hl
  have hes : ∀ e ∈ rle os, e.1 < 2^32 := fun e he => Nat.lt_of_le_of_lt (rle_count_le os e he) hl
  simp only [bCtts, leaf, Box.pre, List.append_assoc]
  unfold decodeCtts
  refine bind_step (fullBox_u32be 0x01000000 (by decide) _) ?_
  refine bind_step (readU32_u32be _ hlen _) ?_
  refine bind_step (List.append_nil _ ▸ readPairs_flatMap_i32 (rle os) [] hes) ((if_pos rfl).trans ?_)
  -- version 1: every offset is read as signed, and `toI32` undoes `i32be` on the `i32` range
  rw [List.map_map]
  refine congrArg some ((List.map_congr_left fun ⟨c, o⟩ he => ?_).trans (List.map_id _))
  have ho := h o (rle_value_mem os _ he)
  simp only [Function.comp, id, Prod.mk.injEq, true_and]
  rw [if_neg (by decide)]
  exact toI32_i32 o ho.1 ho.2

/-- sample-to-chunk: empty when there is no chunk (or no sample per chunk), else the single run
    (first chunk 1, `spc` samples per chunk, description index 1) -/
theorem C16_stsc (spc n : Nat) (h : spc < 2^32) :
    decodeStsc (bStsc spc n).pre = some (if n % 2^32 = 0 ∨ spc = 0 then [] else [(1, spc, 1)]) := by
  unfold bStsc
  split
  · decide
  · have e := readU32_u32be 1 (by decide) []
    rw [List.append_nil] at e
    simp only [leaf, Box.pre, List.append_assoc]
    unfold decodeStsc
    refine bind_step (fullBox_u32be 0 (by decide) _) ?_
    refine bind_step (readU32_u32be 1 (by decide) _) ?_
    refine bind_step (a := ([(1, spc, 1)], [])) ?_ rfl
    simp only [readTriples, readU32_u32be 1 (by omega), readU32_u32be spc h, e]

/-! ## 3. guards: the values handed to the fields are in range -/

/-- In every reachable writer state on which `finalize` succeeds, every value written to a
    fixed-width field of the sample tables and headers is in range: the stts deltas and the mdhd
    durations of both tracks (C03_durations_u32, C03_finalize_ok), the sample sizes, the entry
    counts, every composition offset (as a signed 32-bit value), and the dimensions (16 bits). -/
theorem C16_finalize_values (w : Writer) (hr : w.Reachable) (width height : Nat) (md : Option Metadata)
    (fast : Bool) (h : (w.finalize width height md fast).2.res = .ok) :
    (∀ d ∈ durationsOf w.vsRev.reverse w.vLastDelta, d < 2^32) ∧
    (∀ d ∈ durationsOf w.asRev.reverse w.aLastDelta, d < 2^32) ∧
    (durationsOf w.vsRev.reverse w.vLastDelta).sum < 2^32 ∧
    (durationsOf w.asRev.reverse w.aLastDelta).sum < 2^32 ∧
    (∀ n ∈ w.vsRev.reverse.map (·.data.length), n < 2^32) ∧
    (∀ n ∈ w.asRev.reverse.map (·.data.length), n < 2^32) ∧
    w.vsRev.length < 2^32 ∧ (w.audio.isSome → w.asRev.length < 2^32) ∧
    (∀ s ∈ w.vsRev, -(2^31 : Int) ≤ (s.pts : Int) - s.dts ∧ (s.pts : Int) - s.dts < 2^31) ∧
    width < 2^16 ∧ height < 2^16 := by
  obtain ⟨hv, ha⟩ := hr.timing
  obtain ⟨d1, d2⟩ := C03.C03_durations_u32 w hv ha
  obtain ⟨-, s1, s2⟩ := C03.C03_finalize_ok w width height md fast h
  obtain ⟨z1, z2⟩ := hr.sizesOk
  obtain ⟨c1, c2⟩ := finalize_ok_count w width height md fast h
  have lt : ∀ {n : Nat}, n ≤ u32Max → n < 2^32 := Nat.lt_succ_of_le
  refine ⟨fun d hd => lt (d1 d hd), fun d hd => lt (d2 d hd), lt s1, lt s2,
    List.forall_mem_map.mpr fun s hs => lt (z1 s (List.mem_reverse.mp hs)),
    List.forall_mem_map.mpr fun s hs => lt (z2 s (List.mem_reverse.mp hs)), c1, c2, fun s hs => ?_,
    Nat.lt_succ_of_le (finalize_ok h).width, Nat.lt_succ_of_le (finalize_ok h).height⟩
  have := hv.cts s hs
  omega

theorem track_tables (vs : List Sample) (offs : List Nat) (spc : Nat) (fb : Option Nat)
    (hd : ∀ d ∈ durationsOf vs fb, d < 2^32) (hz : ∀ n ∈ vs.map (·.data.length), n < 2^32)
    (hc : vs.length < 2^32) :
    let t := Tables.ofSamples vs offs spc fb
    decodeStts (bStts t.durations).pre = some (rle (durationsOf vs fb)) ∧
    decodeStsz (bStsz t.sizes).pre = some (vs.map (·.data.length)) ∧
    decodeCtts (bCtts t.ctsOffsets).pre = some (rle t.ctsOffsets) := by
  refine ⟨?_, ?_, ?_⟩
  · show decodeStts (bStts (durationsOf vs fb)).pre = _
    exact C16_stts _ hd (by rw [durationsOf_length]; exact hc)
  · show decodeStsz (bStsz (vs.map (·.data.length))).pre = _
    exact C16_stsz _ hz (by rw [List.length_map]; exact hc)
  · -- a composition offset is computed as `toI32` of a 32-bit pattern, so it fits whatever the timestamps
    show decodeCtts (bCtts (vs.map fun s => (ctsOf s.pts s.dts).getD 0)).pre = _
    refine C16_ctts _ (List.forall_mem_map.mpr fun s _ => ?_) (by rw [List.length_map]; exact hc)
    exact toI32_range _ (i32_pattern_lt _)

/-- consequently the tables of the video track of a finished file decode to exactly the values
    computed from the input: run-length durations, sizes, and — for u64 timestamps — the
    composition offsets `pts - dts` (`C03.ctts_of_inv`, which does not need the bound `h64`) -/
theorem C16_finalize_video_tables (w : Writer) (hr : w.Reachable) (width height : Nat) (md : Option Metadata)
    (fast : Bool) (h : (w.finalize width height md fast).2.res = .ok)
    (h64 : ∀ s ∈ w.vsRev, s.pts < 2^64 ∧ s.dts < 2^64) (offs : List Nat) (spc : Nat) :
    let t := Tables.ofSamples w.vsRev.reverse offs spc w.vLastDelta
    decodeStts (bStts t.durations).pre = some (rle (durationsOf w.vsRev.reverse w.vLastDelta)) ∧
    decodeStsz (bStsz t.sizes).pre = some (w.vsRev.reverse.map (·.data.length)) ∧
    decodeCtts (bCtts t.ctsOffsets).pre = some (rle (w.vsRev.reverse.map fun s => (s.pts : Int) - s.dts)) := by
  obtain ⟨d1, -, -, -, z1, -, c1, -⟩ := C16_finalize_values w hr width height md fast h
  obtain ⟨t1, t2, t3⟩ := track_tables w.vsRev.reverse offs spc w.vLastDelta d1 z1
    (by rw [List.length_reverse]; exact c1)
  exact ⟨t1, t2, (C03.ctts_of_inv w offs spc hr.timing.1).1 ▸ t3⟩

/-- the same for the audio track (when the writer has one) -/
theorem C16_finalize_audio_tables (w : Writer) (hr : w.Reachable) (width height : Nat) (md : Option Metadata)
    (fast : Bool) (h : (w.finalize width height md fast).2.res = .ok) (hau : w.audio.isSome)
    (offs : List Nat) (spc : Nat) :
    let t := Tables.ofSamples w.asRev.reverse offs spc w.aLastDelta
    decodeStts (bStts t.durations).pre = some (rle (durationsOf w.asRev.reverse w.aLastDelta)) ∧
    decodeStsz (bStsz t.sizes).pre = some (w.asRev.reverse.map (·.data.length)) := by
  obtain ⟨-, d2, -, -, -, z2, -, c2, -, -, -⟩ := C16_finalize_values w hr width height md fast h
  obtain ⟨t1, t2, -⟩ := track_tables w.asRev.reverse offs spc w.aLastDelta d2 z2
    (by rw [List.length_reverse]; exact c2 hau)
  exact ⟨t1, t2⟩

/-- … and both mdhd duration fields read back as the exact sums (C03_mdhd_finished) -/
theorem C16_finalize_mdhd (w : Writer) (width height : Nat) (md : Option Metadata) (fast : Bool)
    (lang : Option (List Nat)) (h : (w.finalize width height md fast).2.res = .ok) :
    (∃ rest, readU32 ((bMdhd 90000 (durationsOf w.vsRev.reverse w.vLastDelta).sum lang).pre.drop 16) =
      some ((durationsOf w.vsRev.reverse w.vLastDelta).sum, rest)) ∧
    (∃ rest, readU32 ((bMdhd 90000 (durationsOf w.asRev.reverse w.aLastDelta).sum lang).pre.drop 16) =
      some ((durationsOf w.asRev.reverse w.aLastDelta).sum, rest)) :=
  C03.C03_mdhd_finished w width height md fast lang h

/-! ### chunk offsets -/

/-- fast-start layout with audio: every chunk offset written fits 32 bits (the writer checks the
    largest cursor value it pushes) -/
theorem C16_stco_faststart_av (w : Writer) (width height : Nat) (md : Option Metadata) (vc : VideoConfig)
    (tr : AudioTrack) (ha : w.audio = some tr)
    (hok : (finalizeFastStart w width height md vc).res = .ok) :
    let vs := w.vsRev.reverse
    let aus := w.asRev.reverse
    let ph := assignOffsets (fun _ => 1) (schedule vs aus) 0
    let placeholder := bMoov width height (Tables.ofSamples vs ph.1 1 w.vLastDelta)
      (some (tr, Tables.ofSamples aus ph.2 1 w.aLastDelta)) vc md
    let o := assignOffsets (entSize vs aus) (schedule vs aus) (ftypLen + placeholder.ser.length + 8)
    (∀ x ∈ o.1, x < 2^32) ∧ (∀ x ∈ o.2, x < 2^32) := by
  intro vs aus ph placeholder o
  simpa only [C08.offsetsAt, fastStart, C08.moovOf, C08.placeholderOffsets, ha] using
    offsetsAt_lt (finalizeFastStart_ok hok).offsets

/-- fast-start layout, video only: the single chunk offset fits 32 bits -/
theorem C16_stco_faststart_video (w : Writer) (width height : Nat) (md : Option Metadata) (vc : VideoConfig)
    (ha : w.audio = none) (hne : w.vsRev.reverse ≠ [])
    (hok : (finalizeFastStart w width height md vc).res = .ok) :
    let vs := w.vsRev.reverse
    let spc := if vs ≠ [] then vs.length else 0
    let placeholder := bMoov width height (Tables.ofSamples vs (if vs ≠ [] then [0] else []) spc w.vLastDelta) none vc md
    ftypLen + placeholder.ser.length + 8 < 2^32 := by
  intro vs spc placeholder
  have hs := (finalizeFastStart_ok hok).offsets
  simp only [maxOffsetAt, ha] at hs
  rw [if_pos hne] at hs
  simp only [fastStart, C08.moovOf, C08.placeholderOffsets, ha] at hs
  exact Nat.lt_succ_of_le hs

/-- standard layout, video only: the single chunk offset is 32 -/
theorem C16_stco_standard_video (w : Writer) (width height : Nat) (md : Option Metadata) (vc : VideoConfig)
    (ha : w.audio = none) (hok : (finalizeStandard w width height md vc).res = .ok) :
    let vs := w.vsRev.reverse
    (finalizeStandard w width height md vc).chunks =
      [bFtyp.ser] ++ (if vs ≠ [] then mdatHeader (vs.map (·.data.length)).sum ++ vs.map (·.data) else []) ++
      [(bMoov width height (Tables.ofSamples vs (if vs ≠ [] then [32] else [])
          (if vs ≠ [] then vs.length else 0) w.vLastDelta) none vc md).ser] := by
  intro vs
  by_cases hne : w.vsRev = [] <;>
    simpa [stdPre, C08.payloadLen, C08.mediaChunks, C08.moovOf, C08.offsetsAt, ha, hne, vs, ftypLen] using
      (finalizeStandard_ok hok).chunks

/-- standard layout with audio, full strength: whenever `finalizeStandard` succeeds, every chunk
    offset handed to the two `stco` boxes fits 32 bits (the layout checks `ftypLen + 8 + payload`,
    which bounds the largest offset: `StandardOk.maxOffset`) -/
theorem C16_stco_standard_av (w : Writer) (width height : Nat) (md : Option Metadata) (vc : VideoConfig)
    (tr : AudioTrack) (ha : w.audio = some tr) (hok : (finalizeStandard w width height md vc).res = .ok) :
    let vs := w.vsRev.reverse
    let aus := w.asRev.reverse
    let payload := (vs.map (·.data.length)).sum + (aus.map (·.data.length)).sum
    let o := assignOffsets (entSize vs aus) (schedule vs aus) (ftypLen + 8)
    (∀ x ∈ o.1, x < 2^32) ∧ (∀ x ∈ o.2, x < 2^32) ∧
    (finalizeStandard w width height md vc).chunks =
      [bFtyp.ser] ++ mdatHeader payload ++ (schedule vs aus).map (entData vs aus) ++
      [(bMoov width height (Tables.ofSamples vs o.1 1 w.vLastDelta)
          (some (tr, Tables.ofSamples aus o.2 1 w.aLastDelta)) vc md).ser] := by
  intro vs aus payload o
  have ho := offsetsAt_lt (finalizeStandard_ok hok).maxOffset
  have hc := (finalizeStandard_ok hok).chunks
  simp only [stdPre, C08.payloadLen, C08.mediaChunks, C08.moovOf, C08.offsetsAt, ha, reduceCtorEq, false_and,
    if_false, ← List.append_assoc] at ho hc
  exact ⟨ho.1, ho.2, hc⟩

/-- the same with the extra hypothesis `32 + payload ≤ 2^32 - 1` (`_partial`): it was needed while
    `finalizeStandard` checked the mdat size `8 + payload` only; since the layout also checks
    `ftypLen + 8 + payload ≤ 2^32 - 1` ("MP4 chunk offset exceeds u32::MAX") it follows from `hok` -/
theorem C16_stco_standard_av_partial (w : Writer) (width height : Nat) (md : Option Metadata) (vc : VideoConfig)
    (tr : AudioTrack) (ha : w.audio = some tr) (hok : (finalizeStandard w width height md vc).res = .ok)
    (hsmall : ftypLen + 8 + ((w.vsRev.reverse.map (·.data.length)).sum +
      (w.asRev.reverse.map (·.data.length)).sum) ≤ u32Max) :
    let vs := w.vsRev.reverse
    let aus := w.asRev.reverse
    let payload := (vs.map (·.data.length)).sum + (aus.map (·.data.length)).sum
    let o := assignOffsets (entSize vs aus) (schedule vs aus) (ftypLen + 8)
    (∀ x ∈ o.1, x < 2^32) ∧ (∀ x ∈ o.2, x < 2^32) ∧
    (finalizeStandard w width height md vc).chunks =
      [bFtyp.ser] ++ mdatHeader payload ++ (schedule vs aus).map (entData vs aus) ++
      [(bMoov width height (Tables.ofSamples vs o.1 1 w.vLastDelta)
          (some (tr, Tables.ofSamples aus o.2 1 w.aLastDelta)) vc md).ser] :=
  C16_stco_standard_av w width height md vc tr ha hok

/-- Counterexample to the cursor walk WITHOUT the chunk-offset guard (the former defect; this case
    is now excluded by `finalizeStandard`, see `C16_stco_standard_av_counterexample_guarded` and
    `C16_stco_standard_av`): one video sample of 2^32 - 10 bytes followed by one audio sample of
    1 byte pass the mdat-size check alone (8 + payload = 2^32 - 1), and `assignOffsets` gives the
    audio chunk the offset 2^32 + 22 — it does not fit the 32-bit stco field (`u32be` would write it
    modulo 2^32, i.e. 22). Stated on the cursor walk with the two sizes; it shows that the mdat-size
    check by itself does not bound the offsets, i.e. the extra guard is necessary. -/
theorem C16_stco_standard_av_counterexample :
    let step : Ent → Nat := fun e => if e.kind = 0 then 2^32 - 10 else 1
    let sched : List Ent := [⟨0, 0, 0⟩, ⟨0, 1, 0⟩]
    8 + (sched.map step).sum ≤ u32Max ∧
    assignOffsets step sched (ftypLen + 8) = ([32], [2^32 + 22]) ∧
    ¬ (2^32 + 22 < 2^32) ∧ u32be (2^32 + 22) = u32be 22 := by
  refine ⟨by decide, by decide, by decide, by decide⟩

/-- … and on exactly these sizes the chunk-offset guard of `finalizeStandard` fires -/
theorem C16_stco_standard_av_counterexample_guarded :
    let step : Ent → Nat := fun e => if e.kind = 0 then 2^32 - 10 else 1
    let sched : List Ent := [⟨0, 0, 0⟩, ⟨0, 1, 0⟩]
    ftypLen + 8 + (sched.map step).sum > u32Max := by
  decide

/-- the standard A/V layout refuses (and writes only `ftyp`) when the mdat size fits but the last
    chunk offset could exceed 32 bits -/
theorem C16_finalizeStandard_rejects_offset (w : Writer) (width height : Nat) (md : Option Metadata)
    (vc : VideoConfig) (tr : AudioTrack) (ha : w.audio = some tr)
    (h1 : 8 + ((w.vsRev.reverse.map (·.data.length)).sum + (w.asRev.reverse.map (·.data.length)).sum) ≤ u32Max)
    (h2 : ftypLen + 8 + ((w.vsRev.reverse.map (·.data.length)).sum +
      (w.asRev.reverse.map (·.data.length)).sum) > u32Max) :
    finalizeStandard w width height md vc = ⟨[bFtyp.ser], .ioErr "MP4 chunk offset exceeds u32::MAX"⟩ := by
  have hp : C08.payloadLen w =
      (w.vsRev.reverse.map (·.data.length)).sum + (w.asRev.reverse.map (·.data.length)).sum := by
    simp only [C08.payloadLen, ha]
  rw [finalizeStandard_eq, hp, if_neg (Nat.not_lt.mpr h1), if_pos ⟨by rw [ha]; rfl, h2⟩]

/-! ## 4. rejections -/

/-- a video decode-time gap above 2^32 - 1 ticks is rejected with `durationOverflow` and the
    writer is unchanged: nothing is written wrapped -/
theorem C16_writeVideo_rejects_gap (w : Writer) (pts dts prev : Nat) (data : Bytes) (key : Bool)
    (hf : w.finalized = false) (hp : w.vPrev = some prev) (h1 : prev < dts) (h2 : dts - prev > 2^32 - 1) :
    w.writeVideo pts dts data key = (w, .err .durationOverflow) := by
  have h1' : ¬ dts ≤ prev := by omega
  have h2' : dts - prev > u32Max := h2
  rw [Writer.writeVideo_eq]
  simp only [Writer.videoErr, hf, hp, h1', h2', Bool.false_eq_true, ↓reduceIte]

theorem C16_writeAudio_rejects_gap (w : Writer) (pts prev : Nat) (data : Bytes) (tr : AudioTrack)
    (hf : w.finalized = false) (ha : w.audio = some tr) (hp : w.aPrev = some prev) (h1 : prev ≤ pts)
    (h2 : pts - prev > 2^32 - 1) :
    w.writeAudio pts data = (w, .err .durationOverflow) := by
  have h1' : ¬ pts < prev := by omega
  have h2' : pts - prev > u32Max := h2
  rw [Writer.writeAudio_eq]
  simp only [Writer.audioErr, hf, ha, hp, h1', h2', Bool.false_eq_true, ↓reduceIte]

/-- a frame whose composition offset `pts - dts` does not fit an `i32` is never accepted, in any
    writer state, and leaves the writer unchanged -/
theorem C16_writeVideo_rejects_cts (w : Writer) (pts dts : Nat) (data : Bytes) (key : Bool)
    (h : (pts : Int) - dts ≥ 2^31 ∨ (pts : Int) - dts < -(2^31)) :
    (w.writeVideo pts dts data key).2 ≠ .ok ∧ (w.writeVideo pts dts data key).1 = w := by
  rcases w.writeVideo_cases pts dts data key with ⟨e, -, h'⟩ | ⟨he, -⟩
  · rw [h']; exact ⟨by simp, rfl⟩
  · exact absurd (show ctsBad pts dts by unfold ctsBad; omega) (Writer.videoErr_none he).2.2.1

/-- … with error `durationOverflow` once the earlier checks (order, gap, payload size) pass -/
theorem C16_writeVideo_rejects_cts_err (w : Writer) (pts dts prev : Nat) (data : Bytes) (key : Bool)
    (hf : w.finalized = false) (hp : w.vPrev = some prev) (h1 : prev < dts) (h2 : dts - prev ≤ 2^32 - 1)
    (h3 : (convertPayload w.codec data).length ≤ 2^32 - 1)
    (h : (pts : Int) - dts ≥ 2^31 ∨ (pts : Int) - dts < -(2^31)) :
    w.writeVideo pts dts data key = (w, .err .durationOverflow) := by
  have h1' : ¬ dts ≤ prev := by omega
  have h2' : ¬ dts - prev > u32Max := Nat.not_lt.mpr h2
  have h3' : ¬ (convertPayload w.codec data).length > u32Max := Nat.not_lt.mpr h3
  have h' : ctsBad pts dts := by unfold ctsBad; omega
  rw [Writer.writeVideo_eq]
  simp only [Writer.videoErr, hf, hp, h1', h2', h3', h', Bool.false_eq_true, ↓reduceIte]

theorem C16_writeVideo_rejects_cts_err_first (w : Writer) (pts dts : Nat) (data : Bytes) (c : VideoConfig)
    (hf : w.finalized = false) (hp : w.vPrev = none) (hc : extractConfig w.codec data = .some c)
    (h3 : (convertPayload w.codec data).length ≤ 2^32 - 1)
    (h : (pts : Int) - dts ≥ 2^31 ∨ (pts : Int) - dts < -(2^31)) :
    w.writeVideo pts dts data true = (w, .err .durationOverflow) := by
  have h3' : ¬ (convertPayload w.codec data).length > u32Max := Nat.not_lt.mpr h3
  have h' : ctsBad pts dts := by unfold ctsBad; omega
  rw [Writer.writeVideo_eq]
  simp only [Writer.videoErr, hf, hp, hc, h3', h', not_true_eq_false, Bool.false_eq_true, ↓reduceIte]

/-- `finalize` refuses a track whose total duration exceeds 2^32 - 1 media ticks … -/
theorem C16_finalize_rejects_duration (w : Writer) (width height : Nat) (md : Option Metadata) (fast : Bool)
    (hf : w.finalized = false)
    (h : (durationsOf w.vsRev.reverse w.vLastDelta).sum > 2^32 - 1 ∨
         (durationsOf w.asRev.reverse w.aLastDelta).sum > 2^32 - 1) :
    (w.finalize width height md fast).2 = ⟨[], .ioErr "MP4 track duration exceeds u32::MAX media ticks"⟩ := by
  have h' : (durationsOf w.vsRev.reverse w.vLastDelta).sum > u32Max ∨
      (durationsOf w.asRev.reverse w.aLastDelta).sum > u32Max := h
  rw [finalize_of_fresh _ _ _ _ _ hf, if_pos h']

/-- … and dimensions above 65535; in both cases nothing is written -/
theorem C16_finalize_rejects_dims (w : Writer) (width height : Nat) (md : Option Metadata) (fast : Bool)
    (hf : w.finalized = false)
    (hd : (durationsOf w.vsRev.reverse w.vLastDelta).sum ≤ 2^32 - 1 ∧
          (durationsOf w.asRev.reverse w.aLastDelta).sum ≤ 2^32 - 1)
    (h : width > 65535 ∨ height > 65535) :
    (w.finalize width height md fast).2 = ⟨[], .ioErr "video width and height must fit in 16 bits"⟩ := by
  have hd' : ¬ ((durationsOf w.vsRev.reverse w.vLastDelta).sum > u32Max ∨
      (durationsOf w.asRev.reverse w.aLastDelta).sum > u32Max) := by simp only [u32Max]; omega
  rw [finalize_of_fresh _ _ _ _ _ hf, if_neg hd', if_pos h]

/-! ## non-vacuity -/
example : decodeStts (bStts [3000, 3000, 3000, 1]).pre = some [(3, 3000), (1, 1)] := by decide
example : decodeCtts (bCtts [3000, -3000, 0]).pre = some [(1, 3000), (1, -3000), (1, 0)] := by decide
example : decodeStsz (bStsz [10, 20]).pre = some [10, 20] := by decide

end Muxide.Props.C16
