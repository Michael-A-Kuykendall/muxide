import Muxide.Lemmas.Api
/-
  C05 — A rejected frame-writing call leaves no trace: the muxer behaves from then on exactly as
  if the call had never been made (same later accept/reject decisions, same statistics, same file).
  The normal forms of the calls live in Muxide/Lemmas/Api.lean.
-/
namespace Muxide.Props.C05
open Muxide

/-! ### 1. the writer: any outcome other than `ok` leaves the writer state untouched -/

theorem C05_writer_video (w : Writer) (pts dts : Nat) (d : Bytes) (k : Bool) :
    (w.writeVideo pts dts d k).2 ≠ .ok → (w.writeVideo pts dts d k).1 = w :=
  Writer.writeVideo_not_ok w pts dts d k

theorem C05_writer_audio (w : Writer) (pts : Nat) (d : Bytes) :
    (w.writeAudio pts d).2 ≠ .ok → (w.writeAudio pts d).1 = w :=
  Writer.writeAudio_not_ok w pts d

/-! ### 2. the five API calls: an error reply returns the *same* muxer state

Each call is refused without a trace or answered `ok` (`Muxer.*_cases`). -/

theorem C05_step_writeVideo (m : Muxer) (pts : F64) (d : Bytes) (k : Bool) (e : MErr) (i : Option Nat)
    (h : (m.writeVideo pts d k).2 = .err e i) : (m.writeVideo pts d k).1 = m := by
  rcases m.writeVideo_cases pts d k with ⟨_, _, hr⟩ | ⟨_, _, hr⟩ <;> rw [hr] at h ⊢
  cases h

theorem C05_step_writeVideoDts (m : Muxer) (pts dts : F64) (d : Bytes) (k : Bool) (e : MErr) (i : Option Nat)
    (h : (m.writeVideoDts pts dts d k).2 = .err e i) : (m.writeVideoDts pts dts d k).1 = m := by
  rcases m.writeVideoDts_cases pts dts d k with ⟨_, _, hr⟩ | ⟨_, _, hr⟩ <;> rw [hr] at h ⊢
  cases h

theorem C05_step_writeAudio (m : Muxer) (pts : F64) (d : Bytes) (e : MErr) (i : Option Nat)
    (h : (m.writeAudio pts d).2 = .err e i) : (m.writeAudio pts d).1 = m := by
  rcases m.writeAudio_cases pts d with ⟨_, _, hr⟩ | ⟨_, _, hr⟩ <;> rw [hr] at h ⊢
  cases h

/-- `encode_video`: on error neither the muxer nor the running timestamp `curV` moves -/
theorem C05_step_encodeVideo (m : Muxer) (d : Bytes) (ms : Nat) (e : MErr) (i : Option Nat)
    (h : (m.encodeVideo d ms).2 = .err e i) : (m.encodeVideo d ms).1 = m := by
  rcases m.encodeVideo_cases d ms with ⟨_, _, hr⟩ | ⟨_, _, hr⟩ <;> rw [hr] at h ⊢
  cases h

/-- `encode_audio`: on error neither the muxer nor the running timestamp `curA` moves -/
theorem C05_step_encodeAudio (m : Muxer) (d : Bytes) (n : Nat) (e : MErr) (i : Option Nat)
    (h : (m.encodeAudio d n).2 = .err e i) : (m.encodeAudio d n).1 = m := by
  rcases m.encodeAudio_cases d n with ⟨_, _, hr⟩ | ⟨_, _, _, _, hr⟩ <;> rw [hr] at h ⊢
  cases h

/-! ### 3. whole call sequences -/

/-- one call of the progressive API -/
inductive Call where
  | wv (pts : F64) (d : Bytes) (k : Bool)
  | wvd (pts dts : F64) (d : Bytes) (k : Bool)
  | wa (pts : F64) (d : Bytes)
  | ev (d : Bytes) (ms : Nat)
  | ea (d : Bytes) (n : Nat)
  | fin
  | fins

/-- is this a frame-writing call (video, audio, or a convenience form)? -/
def Call.isWrite : Call → Bool
  | .fin | .fins => false
  | _ => true

/-- one call against a fault-free sink -/
def step (m : Muxer) : Call → Muxer × Reply
  | .wv pts d k => m.writeVideo pts d k
  | .wvd pts dts d k => m.writeVideoDts pts dts d k
  | .wa pts d => m.writeAudio pts d
  | .ev d ms => m.encodeVideo d ms
  | .ea d n => m.encodeAudio d n
  | .fin => let r := m.finish deliverAll; (r.1, r.2.2)
  | .fins => let r := m.finishStats deliverAll; (r.1, r.2.2)

def run : Muxer → List Call → Muxer × List Reply
  | m, [] => (m, [])
  | m, c :: cs =>
    let (m', r) := step m c
    let (m'', rs) := run m' cs
    (m'', r :: rs)

def Reply.isErr : Reply → Bool
  | .err _ _ => true
  | _ => false

/-- a *rejected frame-writing call*: a write call whose reply is an error.
    (A `panic` reply is not an error: such calls are kept. In this model no frame-writing call
    ever replies `panic` — see `C05_write_no_panic` — so nothing is lost by that choice.) -/
def rejected (c : Call) (r : Reply) : Bool := c.isWrite && Reply.isErr r

/-- calls (paired with the reply they got) that were not rejected frame writes -/
def keptPairs (cs : List Call) (rs : List Reply) : List (Call × Reply) :=
  (cs.zip rs).filter fun p => !rejected p.1 p.2

def kept (cs : List Call) (rs : List Reply) : List Call := (keptPairs cs rs).map (·.1)
def keptReplies (cs : List Call) (rs : List Reply) : List Reply := (keptPairs cs rs).map (·.2)

theorem step_write_cases (m : Muxer) (c : Call) (hc : c.isWrite = true) :
    (∃ e i, step m c = (m, .err e i)) ∨ (step m c).2 = .ok := by
  cases c with
  | wv pts d k => exact (m.writeVideo_cases pts d k).imp_right fun h => congrArg Prod.snd h.2.2
  | wvd pts dts d k => exact (m.writeVideoDts_cases pts dts d k).imp_right fun h => congrArg Prod.snd h.2.2
  | wa pts d => exact (m.writeAudio_cases pts d).imp_right fun h => congrArg Prod.snd h.2.2
  | ev d ms => exact (m.encodeVideo_cases d ms).imp_right fun h => congrArg Prod.snd h.2.2
  | ea d n => exact (m.encodeAudio_cases d n).imp_right fun ⟨_, h⟩ => congrArg Prod.snd h.2.2.2
  | fin => cases hc
  | fins => cases hc

theorem C05_step (m : Muxer) (c : Call) (h : rejected c (step m c).2 = true) : (step m c).1 = m := by
  obtain ⟨hc, he⟩ := Bool.and_eq_true_iff.mp h
  rcases step_write_cases m c hc with ⟨_, _, hr⟩ | hr
  · rw [hr]
  · rw [hr] at he; cases he

theorem run_cons (m : Muxer) (c : Call) (cs : List Call) :
    run m (c :: cs) = ((run (step m c).1 cs).1, (step m c).2 :: (run (step m c).1 cs).2) := rfl

theorem keptPairs_cons (c : Call) (cs : List Call) (r : Reply) (rs : List Reply) :
    keptPairs (c :: cs) (r :: rs) = if rejected c r then keptPairs cs rs else (c, r) :: keptPairs cs rs := by
  unfold keptPairs
  rw [List.zip_cons_cons, List.filter_cons]
  cases rejected c r <;> rfl

/-- **C05.** Run any call sequence `cs` from any muxer state `m`; drop every frame-writing call
    that was rejected. Running the remaining calls from the same state ends in the *same muxer
    state* and produces *exactly the replies* the kept calls received in the original run. Since
    the finished file, the statistics and every later accept/reject decision are functions of the
    state, none of them can tell whether the rejected calls were ever made. -/
theorem C05 (m : Muxer) (cs : List Call) :
    (run m (kept cs (run m cs).2)).1 = (run m cs).1 ∧
    (run m (kept cs (run m cs).2)).2 = keptReplies cs (run m cs).2 := by
  induction cs generalizing m with
  | nil => exact ⟨rfl, rfl⟩
  | cons c cs ih =>
    obtain ⟨ih1, ih2⟩ := ih (step m c).1
    rw [run_cons, kept, keptReplies, keptPairs_cons]
    cases hrej : rejected c (step m c).2
    · -- the call is kept: the filtered run makes the same step
      rw [if_neg Bool.false_ne_true, List.map_cons, List.map_cons, run_cons]
      exact ⟨ih1, congrArg _ ih2⟩
    · -- a rejected write left the muxer as it was
      rw [if_pos rfl]
      rw [C05_step m c hrej] at ih1 ih2 ⊢
      exact ⟨ih1, ih2⟩

/-- the statistics and every byte handed to the sink by a subsequent finish are identical -/
theorem C05_file (m : Muxer) (cs : List Call) (deliver : Deliver) :
    (run m (kept cs (run m cs).2)).1.finishStats deliver = (run m cs).1.finishStats deliver := by
  rw [(C05 m cs).1]

/-- no frame-writing call ever replies `panic` in this model, so "not an error" = "accepted" for
    frame writes: the kept frame writes are exactly the accepted ones -/
theorem C05_write_no_panic (m : Muxer) (c : Call) (hc : c.isWrite = true) : (step m c).2 ≠ .panic := by
  rcases step_write_cases m c hc with ⟨_, _, hr⟩ | hr <;> rw [hr] <;> nofun

/-- non-vacuity: a rejected write (empty payload), an accepted key frame, a rejected non-increasing
    frame, then finish — exactly the two rejected writes are dropped, and the finish still succeeds -/
example :
    let m := build ⟨.vp9, 640, 480, none, none, false⟩
    let fr : Bytes := [0x49, 0x83, 0x42, 0, 0, 1, 1, 0]
    let cs := [Call.wv F64.zero [] true, .wv F64.zero fr true, .wv F64.zero fr false, .fin]
    (run m cs).2 = [.err .emptyVideoFrame (some 0), .ok, .err .nonIncreasingVideoPts (some 1), .ok] ∧
    (kept cs (run m cs).2).length = 2 := by decide +kernel

end Muxide.Props.C05
