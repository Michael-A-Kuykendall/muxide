import Muxide.Checked.Core
import Muxide.Props.C12Parsers
import Muxide.Lemmas.Av1
/-
  C12 (checked models, AV1) — `parse_obu_header`, `ObuIter::next`, the payload slices of
  `parse_sequence_header` / `is_av1_keyframe`, and `BitReader::read_bit`, mirrored at the level of
  their index, slice and `usize` operations.  Each theorem states `Checked.f x = .ok (Model.f x)`:
  the Rust function cannot panic on any input of at most `isize::MAX` bytes, and the structural model
  used everywhere else computes the same result.
-/
namespace Muxide.Checked
open Muxide Muxide.Props.C12Parsers

/-- `parse_obu_header` (the body of `read_leb128` has no index or slice operation and shifts by at most 49) -/
def parseObuHeaderC (d : Bytes) : M (Option ObuInfo) :=
  if d = [] then .ok none else
  match getC d 0 with
  | .error e => .error e
  | .ok hb =>
    let h := hb.toNat
    if h ≥ 128 then .ok none else
    let ty := h / 8 % 16
    let ext := h / 4 % 2 = 1
    let hasSize := h / 2 % 2 = 1
    if ext ∧ d.length < 2 then .ok none else
    let hs := if ext then 2 else 1
    if hasSize then
      if d.length ≤ hs then .ok none else
      match sliceFrom d hs with
      | .error e => .error e
      | .ok tail =>
        match readLeb128 tail with
        | none => .ok none
        | some (size, n) =>
          match addU hs n with                       -- header_size += leb_len
          | .error e => .error e
          | .ok hs' =>
            match addU hs' size with                 -- total_size: header_size + payload_size
            | .error e => .error e
            | .ok _ => .ok (some ⟨ty, ext, hs', size⟩)
    else
      match addU hs (d.length - hs) with             -- saturating_sub cannot fail
      | .error e => .error e
      | .ok _ => .ok (some ⟨ty, ext, hs, d.length - hs⟩)

theorem C12_checked_obu_header (d : Bytes) (hd : SliceLen d) : parseObuHeaderC d = .ok (parseObuHeader d) := by
  unfold parseObuHeaderC parseObuHeader
  cases d with
  | nil => rfl
  | cons hb rest =>
    rw [if_neg (List.cons_ne_nil _ _), getC_ok (Nat.zero_lt_succ _)]
    dsimp only [List.getElem_cons_zero]
    refine guard_ok fun _ => guard_ok fun _ => ?_
    have hs2 : (if hb.toNat / 4 % 2 = 1 then 2 else 1) ≤ 2 := by split <;> decide
    unfold SliceLen at hd
    by_cases hsz : hb.toNat / 2 % 2 = 1
    · rw [if_pos hsz, if_pos hsz]
      refine guard_ok fun hle => ?_
      rw [sliceFrom_ok (by omega)]
      dsimp only
      cases hl : readLeb128 (List.drop (if hb.toNat / 4 % 2 = 1 then 2 else 1) (hb :: rest)) with
      | none => rfl
      | some vn =>
        -- `header_size + leb_len ≤ 10` and `payload_size < 2^56`: neither sum overflows
        obtain ⟨b1, b2, b3, b4⟩ := C12_leb128_bound hl
        dsimp only
        rw [addU_ok (by omega)]
        dsimp only
        rw [addU_ok (by omega)]
    · rw [if_neg hsz, if_neg hsz, addU_ok (by omega)]

/-- one `ObuIter::next` at position `pos`: the item and the new position -/
def obuIterNext (d : Bytes) (pos : Nat) : M (Option ((ObuInfo × Bytes) × Nat)) :=
  if pos ≥ d.length then .ok none else
  match sliceFrom d pos with                          -- &self.data[self.pos..]
  | .error e => .error e
  | .ok remaining =>
    match parseObuHeaderC remaining with
    | .error e => .error e
    | .ok none => .ok none
    | .ok (some info) =>
      match addU pos info.totalSize with              -- self.pos + info.total_size
      | .error e => .error e
      | .ok endPos =>
        if endPos > d.length then .ok none else
        match sliceTo remaining info.totalSize with   -- &remaining[..info.total_size]
        | .error e => .error e
        | .ok obu => .ok (some ((info, obu), endPos))  -- self.pos += info.total_size (same sum)

/-- `for (info, obu) in ObuIter::new(data)`; running out of fuel is a failure -/
def collectObus (d : Bytes) : Nat → Nat → M (List (ObuInfo × Bytes))
  | 0, _ => .error ()
  | fuel + 1, pos =>
    match obuIterNext d pos with
    | .error e => .error e
    | .ok none => .ok []
    | .ok (some (item, pos')) =>
      match collectObus d fuel pos' with
      | .error e => .error e
      | .ok rest => .ok (item :: rest)

theorem collectObus_spec (d : Bytes) (hd : SliceLen d) : ∀ (fuel pos : Nat), pos ≤ d.length → d.length - pos < fuel →
    collectObus d fuel pos = .ok (obusAux fuel (d.drop pos)) := by
  intro fuel
  induction fuel with
  | zero => intro pos _ h; omega
  | succ fuel ih =>
    intro pos hp hf
    unfold collectObus obuIterNext obusAux
    by_cases hge : pos ≥ d.length
    · rw [if_pos hge, if_pos (List.drop_eq_nil_of_le hge)]
    · have hlen : (d.drop pos).length = d.length - pos := List.length_drop
      have hne : d.drop pos ≠ [] := fun h => hge (List.drop_eq_nil_iff.mp h)
      rw [if_neg hge, if_neg hne, sliceFrom_ok hp]
      simp only [C12_checked_obu_header _ (show SliceLen (d.drop pos) by unfold SliceLen at *; omega)]
      cases hh : parseObuHeader (d.drop pos) with
      | none => rfl
      | some info =>
        dsimp only
        rw [addU_ok ((C12_obus_pos_bound hp hh).2 hd)]
        dsimp only
        by_cases hgt : info.totalSize > (d.drop pos).length
        · rw [if_pos (by omega), if_pos hgt]
        · rw [if_neg (by omega), if_neg hgt, sliceTo_ok (by omega)]
          dsimp only
          have := obu_step hh
          rw [ih _ (by omega) (by omega), List.drop_drop]

/-- `ObuIter` run to the end: every slice is inside the buffer, no `usize` sum overflows, at most
    `len + 1` calls of `next` -/
theorem C12_checked_obu_iter (d : Bytes) (hd : SliceLen d) :
    collectObus d (d.length + 1) 0 = .ok (obus d) := by
  have := collectObus_spec d hd (d.length + 1) 0 (Nat.zero_le _) (by omega)
  simpa [obus] using this

/-- every item of the iterator is at least as long as its header: `&obu_data[info.header_size..]` in
    `parse_sequence_header` (with its INV-202 assertion) and `is_av1_keyframe` is in bounds -/
theorem C12_checked_obu_payload_slice (d : Bytes) (info : ObuInfo) (obu : Bytes)
    (h : (info, obu) ∈ obus d) : sliceFrom obu info.headerSize = .ok (obu.drop info.headerSize) := by
  have key : ∀ (fuel : Nat) (e : Bytes), (info, obu) ∈ obusAux fuel e → info.headerSize ≤ obu.length := by
    intro fuel
    induction fuel with
    | zero => intro e he; cases he
    | succ fuel ih =>
      intro e he
      rcases obusAux_step e with h | ⟨i, _, _, hle, h⟩ <;> rw [h] at he
      · cases he
      · rcases List.mem_cons.mp he with heq | he
        · cases heq
          rw [List.length_take]; unfold ObuInfo.totalSize at hle ⊢; omega
        · exact ih _ he
  exact sliceFrom_ok (key _ _ h)

end Muxide.Checked

namespace Muxide.Checked
open Muxide
open Muxide.Av1Lemmas (byteBits_length byteBits_get bitsOf_cons)

/-- `BitReader` -/
structure BR where
  data : Bytes
  bytePos : Nat
  bitPos : Nat

/-- the bits a reader has not consumed yet -/
def BR.rest (r : BR) : Bits := (bitsOf r.data).drop (8 * r.bytePos + r.bitPos)

/-- `BitReader::read_bit`: `data[byte_pos] >> (7 - bit_pos)` needs `byte_pos < len` and `bit_pos ≤ 7` -/
def readBitC (r : BR) : M (Option (Bool × BR)) :=
  if r.bytePos ≥ r.data.length then .ok none else
  match getC r.data r.bytePos with
  | .error e => .error e
  | .ok b =>
    match subU 7 r.bitPos with
    | .error e => .error e
    | .ok sh =>
      let bit := b.toNat / 2 ^ sh % 2
      let bp := r.bitPos + 1
      if bp = 8 then .ok (some (bit ≠ 0, { r with bitPos := 0, bytePos := r.bytePos + 1 }))
      else .ok (some (bit ≠ 0, { r with bitPos := bp }))

theorem bitsOf_length (d : Bytes) : (bitsOf d).length = 8 * d.length := by
  induction d with
  | nil => rfl
  | cons b r ih => rw [bitsOf_cons, List.length_append, ih, byteBits_length, List.length_cons]; omega

theorem bitsOf_get (d : Bytes) (i j : Nat) (hi : i < d.length) (hj : j < 8) :
    (bitsOf d)[8 * i + j]? = some (decide (d[i].toNat / 2 ^ (7 - j) % 2 = 1)) := by
  induction d generalizing i with
  | nil => cases hi
  | cons b r ih =>
    rw [bitsOf_cons]
    cases i with
    | zero => rw [Nat.mul_zero, Nat.zero_add, List.getElem?_append_left (by rw [byteBits_length]; omega)]; exact byteBits_get b j hj
    | succ i =>
      rw [List.getElem?_append_right (by rw [byteBits_length]; omega), byteBits_length,
        show 8 * (i + 1) + j - 8 = 8 * i + j by omega]
      exact ih i (Nat.lt_of_succ_lt_succ hi)

/-- `read_bit` never indexes outside the buffer nor underflows `7 - bit_pos` as long as `bit_pos < 8`, keeps
    that invariant, and reads the bits of the buffer most significant first -/
theorem C12_checked_read_bit (r : BR) (hb : r.bitPos < 8) :
    ∃ out, readBitC r = .ok out ∧
      (match out with
       | none => rbit r.rest = none
       | some (b, r') => rbit r.rest = some (b, r'.rest) ∧ r'.bitPos < 8 ∧ r'.data = r.data) := by
  unfold readBitC
  by_cases hge : r.bytePos ≥ r.data.length
  · refine ⟨none, if_pos hge, ?_⟩
    have : r.rest = [] := List.drop_eq_nil_of_le (by rw [bitsOf_length]; omega)
    rw [this]; rfl
  · have hlt : r.bytePos < r.data.length := by omega
    have hl : 8 * r.bytePos + r.bitPos < (bitsOf r.data).length := by rw [bitsOf_length]; omega
    -- the reader's next bit is bit `7 - bit_pos` of the current byte
    have hrest : r.rest = decide (r.data[r.bytePos].toNat / 2 ^ (7 - r.bitPos) % 2 ≠ 0) ::
        (bitsOf r.data).drop (8 * r.bytePos + r.bitPos + 1) := by
      rw [BR.rest, List.drop_eq_getElem_cons hl]
      congr 1
      have := (List.getElem?_eq_getElem hl).symm.trans (bitsOf_get r.data r.bytePos r.bitPos hlt hb)
      rw [Option.some.inj this]; exact decide_eq_decide.mpr (by omega)
    rw [if_neg hge, getC_ok hlt, subU_ok (by omega), hrest]
    dsimp only
    split
    · refine ⟨_, rfl, ?_, Nat.zero_lt_succ _, rfl⟩
      rw [BR.rest]; dsimp only
      rw [show 8 * (r.bytePos + 1) + 0 = 8 * r.bytePos + r.bitPos + 1 by omega]; rfl
    · exact ⟨_, rfl, rfl, by dsimp only; omega, rfl⟩

end Muxide.Checked
