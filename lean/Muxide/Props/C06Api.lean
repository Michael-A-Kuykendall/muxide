import Muxide.Props.C01Api
import Muxide.Props.C06
/-
  C06 (API form) — the statistics returned by `finish_with_stats`, in terms of the calls of the public API: for
  every sequence of frame-writing API calls on a freshly built muxer, a successful finish reports as video frame
  count the number of video calls answered `ok`, as audio frame count the number of audio calls answered `ok`,
  and as byte count the length of the file it delivered.
-/
namespace Muxide.Props.C06Api
open Muxide Muxide.Props.C05 Muxide.Props.C01History Muxide.Props.C01Api

/-- the reply of a successful `finish_in_place_with_stats`, spelled out -/
theorem finishStats_reply (m : Muxer) (st : Stats) (h : (m.finishStats deliverAll).2.2 = .stats st) :
    st.video = m.w.vsRev.length ∧ st.audio = m.w.asRev.length ∧
    st.bytes = min (m.w.bytesWritten + ((m.w.finalize m.width m.height m.md m.fast).2.chunks.map (·.length)).sum) u64Max := by
  obtain ⟨-, -, h3, -, -, -, rfl⟩ := Muxer.finishStats_stats (by rw [← h] : m.finishStats deliverAll = (_, _, .stats st))
  exact ⟨rfl, rfl, by rw [h3]; rfl⟩

theorem writeVideo_bytes (w : Writer) (pts dts : Nat) (data : Bytes) (key : Bool) :
    (w.writeVideo pts dts data key).1.bytesWritten = w.bytesWritten :=
  (C06.C06_bytes_unchanged w pts dts data key).1

theorem writeAudio_bytes (w : Writer) (pts : Nat) (data : Bytes) :
    (w.writeAudio pts data).1.bytesWritten = w.bytesWritten :=
  (C06.C06_bytes_unchanged w pts 0 data false).2

/-- write calls hand nothing to the sink -/
theorem wrun_bytes (cs : List WCall) : ∀ (w : Writer), w.bytesWritten = 0 → (wrun w cs).1.bytesWritten = 0 :=
  wrun_induction (P := fun w => w.bytesWritten = 0)
    (fun w pts dts data key h => (writeVideo_bytes w pts dts data key).trans h)
    (fun w pts data h => (writeAudio_bytes w pts data).trans h) cs

theorem C06_api_counts (c : Config) (cs : List Call) (hall : ∀ x ∈ cs, x.isWrite = true) (st : Stats) :
    let m0 := build c
    let m := (run m0 cs).1
    (m.finishStats deliverAll).2.2 = .stats st →
    st.video = ((apiAccepted m0 cs).filterMap (vrec c.codec)).length ∧
    st.audio = ((apiAccepted m0 cs).filterMap (arec m0.w.audio)).length ∧
    st.bytes = min ((m.finishStats deliverAll).2.1.chunks.flatten.length) u64Max := by
  intro m0 m hst
  obtain ⟨s1, s2, s3⟩ := finishStats_reply m st hst
  obtain ⟨hw, -, -, hacc⟩ := session c cs hall st hst
  have hw' : m.w = _ := hw
  obtain ⟨q1, q2, -, -⟩ := wrun_fresh c.codec m0.w.audio (wcalls m0 cs)
  refine ⟨?_, ?_, ?_⟩
  · rw [s1, hw', ← (hacc none).1, ← q1, List.length_map, List.length_reverse]
  · rw [s2, hw', ← (hacc _).2, ← q2, List.length_map, List.length_reverse]
  · rw [s3, (finishStats_stats m st hst).1, List.length_flatten, show m.w.bytesWritten = 0 from
      hw' ▸ wrun_bytes (wcalls m0 cs) _ rfl, Nat.zero_add]

end Muxide.Props.C06Api
