import Muxide.Lemmas.Schedule
import Muxide.Lemmas.WriterInv
/-
  C15 — In a file with both tracks, each track's samples are stored in the media data in sample
  order, and the overall storage order is the merge of the two tracks by timestamp with video
  first on equal timestamps.
  The storage order *is* the schedule: the media data is `(schedule vs aus).map (entData vs aus)`
  concatenated (`finalizeStandard` / `finalizeFastStart`).
  Helper lemmas live in Muxide/Lemmas/Schedule.lean.
-/
namespace Muxide.Props.C15
open Muxide

/-- the explicit lexicographic order (timestamp, video before audio, sample index) -/
def Before (a b : Ent) : Prop :=
  a.ts < b.ts ∨ (a.ts = b.ts ∧ (a.kind < b.kind ∨ (a.kind = b.kind ∧ a.idx ≤ b.idx)))

/-- The schedule contains exactly the entries of both tracks (each once) and is sorted. -/
theorem C15_perm (vs aus : List Sample) :
    (schedule vs aus).Perm (entsOf 0 vs ++ entsOf 1 aus) ∧
    (schedule vs aus).Pairwise (fun a b => Ent.le a b = true) :=
  ⟨schedule_perm vs aus, schedule_sorted vs aus⟩

/-- Each track's samples appear in the schedule (= storage order) in sample order: the video
    entries of the schedule are entries 0,1,2,… of the video track in that order, likewise audio. -/
theorem C15_track_order (vs aus : List Sample) :
    (vs.Pairwise (fun a b => a.dts < b.dts) →
      (schedule vs aus).filter (fun e => e.kind = 0) = entsOf 0 vs) ∧
    (aus.Pairwise (fun a b => a.dts ≤ b.dts) →
      (schedule vs aus).filter (fun e => e.kind = 1) = entsOf 1 aus) :=
  ⟨fun hv => schedule_filter_video vs aus (pairwise_lt_le hv), fun ha => schedule_filter_audio vs aus ha⟩

/-- (stronger form for video: non-decreasing dts suffices) -/
theorem C15_track_order_video_le (vs aus : List Sample) (hv : vs.Pairwise (fun a b => a.dts ≤ b.dts)) :
    (schedule vs aus).filter (fun e => e.kind = 0) = entsOf 0 vs :=
  schedule_filter_video vs aus hv

/-- Any entry stored before another one is `Before` it: smaller timestamp, or equal timestamps
    and video before audio, or same track and smaller index. -/
theorem C15_merge (vs aus : List Sample) : (schedule vs aus).Pairwise Before := by
  refine (schedule_sorted vs aus).imp ?_
  intro a b h
  exact (Ent.le_iff a b).mp h

/-- in index form -/
theorem C15_merge_getElem (vs aus : List Sample) (i j : Nat) (hij : i < j)
    (hj : j < (schedule vs aus).length) :
    Before ((schedule vs aus)[i]) ((schedule vs aus)[j]) :=
  (List.pairwise_iff_getElem.mp (C15_merge vs aus)) i j (by omega) hj hij

/-- The schedule is the only sorted arrangement of the entries. -/
theorem C15_unique (vs aus : List Sample) (l : List Ent)
    (hp : l.Perm (entsOf 0 vs ++ entsOf 1 aus)) (hs : l.Pairwise (fun a b => Ent.le a b = true)) :
    schedule vs aus = l := schedule_unique vs aus l hp hs

/-- the sort key is determined by the order (the sorted permutation is unique): two mutually
    `Before` entries are equal -/
theorem Before_antisymm (a b : Ent) (h1 : Before a b) (h2 : Before b a) : a = b :=
  Ent.le_antisymm a b ((Ent.le_iff a b).mpr h1) ((Ent.le_iff b a).mpr h2)

/-- presentation timestamp of the sample an entry refers to -/
def entPts (vs aus : List Sample) (e : Ent) : Nat :=
  if e.kind = 0 then (vs[e.idx]?.map (·.pts)).getD 0 else (aus[e.idx]?.map (·.pts)).getD 0

/-- Without frame reordering (pts = dts on every sample; the writer stores dts = pts for
    audio) the sort key of every schedule entry is the presentation timestamp of its sample. -/
theorem C15_key_is_pts (vs aus : List Sample)
    (hv : ∀ s ∈ vs, s.pts = s.dts) (ha : ∀ s ∈ aus, s.pts = s.dts) :
    ∀ e ∈ schedule vs aus, e.ts = entPts vs aus e := by
  intro e he
  rcases mem_schedule he with ⟨hk, hi, hts⟩ | ⟨hk, hi, hts⟩
  · simp [entPts, hk, hi, hts, hv _ (List.getElem_mem hi)]
  · simp [entPts, hk, hi, hts, ha _ (List.getElem_mem hi)]

/-- Hence, without frame reordering, no sample is stored after a sample with a later
    presentation timestamp, and on equal presentation timestamps video is stored before audio. -/
theorem C15_merge_pts (vs aus : List Sample)
    (hv : ∀ s ∈ vs, s.pts = s.dts) (ha : ∀ s ∈ aus, s.pts = s.dts)
    (i j : Nat) (hij : i < j) (hj : j < (schedule vs aus).length) :
    let a := (schedule vs aus)[i]
    let b := (schedule vs aus)[j]
    entPts vs aus a ≤ entPts vs aus b ∧ (entPts vs aus a = entPts vs aus b → a.kind ≤ b.kind) := by
  intro a b
  have hB : Before a b := C15_merge_getElem vs aus i j hij hj
  have ea := C15_key_is_pts vs aus hv ha a (List.getElem_mem _)
  have eb := C15_key_is_pts vs aus hv ha b (List.getElem_mem _)
  rw [← ea, ← eb]
  unfold Before at hB
  omega

/-- non-vacuity / illustration: video at 0, 3000, 6000 and audio at 0, 3000, 4000 are stored
    V0 A0 V1 A1 A2 V2 -/
example :
    schedule [⟨0, 0, [1], true, none⟩, ⟨3000, 3000, [2], false, none⟩, ⟨6000, 6000, [3], false, none⟩]
             [⟨0, 0, [4], false, none⟩, ⟨3000, 3000, [5], false, none⟩, ⟨4000, 4000, [6], false, none⟩]
      = [⟨0, 0, 0⟩, ⟨0, 1, 0⟩, ⟨3000, 0, 1⟩, ⟨3000, 1, 1⟩, ⟨4000, 1, 2⟩, ⟨6000, 0, 2⟩] := by
  apply schedule_unique
  · decide
  · decide

/-- 2''. For every writer state the API can reach the ordering hypotheses hold, so both tracks'
    samples are stored in sample order, unconditionally. -/
theorem C15_track_order_reachable (w : Writer) (hr : w.Reachable) :
    (schedule w.vsRev.reverse w.asRev.reverse).filter (fun e => e.kind = 0) = entsOf 0 w.vsRev.reverse ∧
    (schedule w.vsRev.reverse w.asRev.reverse).filter (fun e => e.kind = 1) = entsOf 1 w.asRev.reverse := by
  obtain ⟨hv, ha, _, _⟩ := hr.inv.ordered
  exact ⟨(C15_track_order _ _).1 hv, (C15_track_order _ _).2 ha⟩

end Muxide.Props.C15
