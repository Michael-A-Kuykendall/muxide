import Muxide.Generated.Adts
import Muxide.Lemmas.AdtsBits
/-
  C14 (mechanical tie, ADTS) — Muxide.Generated.Adts is produced by tools/rs2lean_adts.py from the Rust source of
  `adts_to_raw` on every check run: the decision logic (which frames are refused, with which error kind, and which
  bytes of an accepted frame are stored), without the diagnostics.  The theorem states that the translated function
  is the model's `adtsToRaw` for every byte string; `C14_adts` (Props/C14.lean) characterises that function
  field by field.  In passing it shows the `CrcMismatch` branch of the source can never be taken.
-/
namespace Muxide.Props.C14GeneratedAdts
open Muxide Muxide.Generated.Adts Muxide.Lemmas.AdtsBits

theorem byte_lt (f : Bytes) (i : Nat) : (f.getD i 0).toNat < 256 := UInt8.toNat_lt _

/-- `adts_to_raw` (decision logic) = the model's `adtsToRaw`, for every byte string -/
theorem C14_gen_adts_to_raw (f : Bytes) : adts_to_raw f = adtsToRaw f := by
  have b0 := byte_lt f 0; have b1 := byte_lt f 1; have b2 := byte_lt f 2
  have b3 := byte_lt f 3; have b4 := byte_lt f 4; have b5 := byte_lt f 5
  have hhl : (if (f.getD 1 0).toNat % 2 = 1 then 7 else 9) = adtsHeaderLen f := rfl
  have hl2 : 2 ≤ adtsHeaderLen f := by unfold adtsHeaderLen; split <;> decide
  unfold adts_to_raw adtsToRaw
  -- masks are remainders; the fields of the syncword, the channel configuration and the frame length do not overlap
  simp only [and_3, and_15, Nat.and_one_is_mod, decide_eq_true_eq, Nat.mod_two_ne_zero, hhl, sync_bits _ b0 _ b1,
    chan_bits ((f.getD 2 0).toNat % 2) (by omega) ((f.getD 3 0).toNat / 2 ^ 6 % 4) (by omega),
    len_bits ((f.getD 3 0).toNat % 4) (by omega) _ b4 _ b5]
  -- guard by guard: the same test, on the same fields
  iterate 9 refine ite_congr rfl (fun _ => rfl) fun _ => ?_
  -- the CRC branch needs `len ≥ header_len + 2` and `len < header_len`: it is dead
  rw [if_neg (by omega), List.drop_take]
  rfl

end Muxide.Props.C14GeneratedAdts
