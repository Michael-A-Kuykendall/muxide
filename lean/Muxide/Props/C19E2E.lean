import Muxide.Props.C01E2E
import Muxide.Props.C19
import Muxide.Props.C07
/-
  C19 (end to end) — the HEADERS AND CONFIGURATION a reader sees. The independent reader
  `Spec.parseMovie`, applied to the very bytes `Writer.finalize` hands to the sink, returns a movie
  whose `mvhd` payload and whose tracks' `tkhd`, `mdhd`, `hdlr` payloads, `stsd` box, media-header
  type and sample-table child order are EXACTLY the payloads / boxes of the builders `bMvhd`,
  `bTkhd`, `bMdhd`, `bHdlr`, `bStsd (bVideoEntry …)` / `bStsd (bAudioEntry …)` with the arguments
  `bMoov` uses — so that the record-level theorems of Props/C19.lean and Props/C07.lean
  (`C19_mvhd`, `C19_mdhd`, `C19_hdlr`, `C19_visual_entry`, `C19_audio_entry`, `C19_tkhd_partial`,
  `C07_avcC`, `C07_hvcC`, `C07_av1C`, `C07_vpcC`, `C07_esds`, `C07_dOps`, `C07_entry_record`, …)
  are statements about what the READER returns; the compositions are spelled out below.
  The two recorded non-conformances of the progressive writer (`tkhd` with a stray 32-bit word,
  `vmhd` flags 0) are thereby also visible end to end: `C19_e2e_tkhd_counterexample`.
  Same hypotheses as C01E2E: reachable writer, `finalize` returned ok, `MoovFits`.
-/
namespace Muxide.Props.C19E2E
open Muxide Muxide.Spec Muxide.Props.C08 Muxide.Props.C01E2E

/-- total duration of the video / audio track in media ticks (sum of the sample durations) -/
abbrev vTicks (w : Writer) : Nat := (durationsOf w.vsRev.reverse w.vLastDelta).sum
abbrev aTicks (w : Writer) : Nat := (durationsOf w.asRev.reverse w.aLastDelta).sum

/-- movie duration in ms as written: the longer of the tracks -/
def movieMs (w : Writer) : Nat :=
  max (toMs (vTicks w)) (match w.audio with | some _ => toMs (aTicks w) | none => 0)

/-- next track id as written -/
def nextTrackId (w : Writer) : Nat := if w.audio.isSome then 3 else 2

theorem C19_e2e_toMs_le (n : Nat) : toMs n ≤ n := by unfold toMs; omega

/-! ## 1. video track -/

/-- The decoded video track's header payloads, sample description, media-header type and edit
    list are exactly what the builders produce for the writer's state and `vcOf w`. -/
theorem C19_e2e_video_headers (w : Writer) (hr : w.Reachable) (width height : Nat) (md : Option Metadata)
    (fast : Bool) (hok : (w.finalize width height md fast).2.res = .ok)
    (hfit : MoovFits w width height md fast) :
    let file := (w.finalize width height md fast).2.chunks.flatten
    ∀ mv, parseMovie file = some mv → ∀ vt, mv.tracks[0]? = some vt →
      vt.tkhd = (bTkhd 1 0 width height (toMs (vTicks w))).pre ∧
      vt.mdhd = (bMdhd 90000 (vTicks w) (md.bind (·.language))).pre ∧
      vt.hdlr = (bHdlr "vide" "VideoHandler").pre ∧
      vt.stsd = bStsd (bVideoEntry width height (vcOf w)) ∧
      vt.mediaHeaderType = ascii "vmhd" ∧
      vt.elst = none := by
  intro file mv hmv vt ht
  obtain ⟨-, hv, -⟩ := e2e_tracks w hr width height md fast hok hfit mv hmv
  rw [hv vt ht]
  exact ⟨rfl, rfl, rfl, rfl, rfl, rfl⟩

/-- The child order of the video sample table as the reader lists it: `stsd stts [ctts] stsc stsz
    stco [stss]`, with `ctts` iff some accepted frame has `pts ≠ dts` and `stss` iff there is a
    frame at all (a reachable writer's first frame is a key frame). -/
theorem C19_e2e_video_stbl_order (w : Writer) (hr : w.Reachable) (width height : Nat) (md : Option Metadata)
    (fast : Bool) (hok : (w.finalize width height md fast).2.res = .ok)
    (hfit : MoovFits w width height md fast) :
    let file := (w.finalize width height md fast).2.chunks.flatten
    ∀ mv, parseMovie file = some mv → ∀ vt, mv.tracks[0]? = some vt →
      vt.stblTypes = [ascii "stsd", ascii "stts"] ++
        (if w.vsRev.any (fun s => decide (s.pts ≠ s.dts)) then [ascii "ctts"] else []) ++
        [ascii "stsc", ascii "stsz", ascii "stco"] ++
        (if w.vsRev = [] then [] else [ascii "stss"]) := by
  intro file mv hmv vt ht
  obtain ⟨-, hv, -⟩ := e2e_tracks w hr width height md fast hok hfit mv hmv
  have hk : ∀ o, (vTablesOf w o).keyframes = keyframesOf w.vsRev.reverse := fun _ => rfl
  rw [hv vt ht]
  show videoStblTypes _ = _
  unfold videoStblTypes
  rw [(vTablesOf_cts w hr.timing.1 _).2, hk]
  by_cases hne : w.vsRev = []
  · rw [hne]; rfl
  · rw [if_pos (hr.keyframes_ne_nil hne), if_neg hne]

/-- The strict ISO decoders on what the reader returned for the video track: media header
    (timescale 90 000, the exact tick sum, the packed language), handler `vide`, and the visual
    sample entry (found as the only child of the reader's `stsd`) with the finalize dimensions. -/
theorem C19_e2e_video_records (w : Writer) (hr : w.Reachable) (width height : Nat) (md : Option Metadata)
    (fast : Bool) (hok : (w.finalize width height md fast).2.res = .ok)
    (hfit : MoovFits w width height md fast) :
    let file := (w.finalize width height md fast).2.chunks.flatten
    ∀ mv, parseMovie file = some mv → ∀ vt, mv.tracks[0]? = some vt →
      strictMdhd vt.mdhd = some ⟨90000, vTicks w, langCode ((md.bind (·.language)).getD [117, 110, 100])⟩ ∧
      strictHdlr vt.hdlr = some (tag "vide") ∧
      vt.stsd.pre = u32be 0 ++ u32be 1 ∧
      vt.stsd.kids = [bVideoEntry width height (vcOf w)] ∧
      vt.stsd.kids.map (fun e => strictVisualEntry e.pre) = [some ⟨width, height⟩] := by
  intro file mv hmv vt ht
  obtain ⟨-, h2, h3, h4, -⟩ := C19_e2e_video_headers w hr width height md fast hok hfit mv hmv vt ht
  have ok := finalize_ok hok
  rw [h2, h3, h4]
  refine ⟨C19.C19_mdhd_90k _ _ (Nat.lt_succ_of_le ok.vdur), C19.C19_hdlr.1, rfl, rfl, ?_⟩
  show [strictVisualEntry (bVideoEntry width height (vcOf w)).pre] = _
  have hp : (bVideoEntry width height (vcOf w)).pre = visualEntryPrefix width height := by
    cases vcOf w <;> rfl
  rw [hp, C19.C19_visual_entry width height (Nat.lt_succ_of_le ok.width) (Nat.lt_succ_of_le ok.height)]

/-- FINDING, end to end: the `tkhd` payload the reader returns for either track is rejected by
    the strict decoder whatever the input (88 bytes: a stray 32-bit word after the duration); the
    fields it does place correctly (`C19_tkhd_partial`) read back as: track id 1 at offset 12,
    duration in ms at 20, identity matrix at 44, 16.16 width / height at 80 / 84. -/
theorem C19_e2e_tkhd_counterexample (w : Writer) (hr : w.Reachable) (width height : Nat) (md : Option Metadata)
    (fast : Bool) (hok : (w.finalize width height md fast).2.res = .ok)
    (hfit : MoovFits w width height md fast) :
    let file := (w.finalize width height md fast).2.chunks.flatten
    ∀ mv, parseMovie file = some mv → ∀ vt, mv.tracks[0]? = some vt →
      strictTkhd vt.tkhd = none ∧ vt.tkhd.length = 88 ∧ be vt.tkhd 12 4 = 1 ∧
      be vt.tkhd 20 4 = toMs (vTicks w) ∧ identityMatrix vt.tkhd 44 = true ∧
      be vt.tkhd 80 4 = width * 65536 ∧ be vt.tkhd 84 4 = height * 65536 := by
  intro file mv hmv vt ht
  obtain ⟨h1, -⟩ := C19_e2e_video_headers w hr width height md fast hok hfit mv hmv vt ht
  have ok := finalize_ok hok
  obtain ⟨p1, -, -, -, p5, -, p7, -, -, -, p11, p12, p13⟩ :=
    C19.C19_tkhd_partial 1 0 width height (toMs (vTicks w)) (by omega) (by omega) (Nat.lt_succ_of_le ok.width)
      (Nat.lt_succ_of_le ok.height) (Nat.lt_succ_of_le (Nat.le_trans (C19_e2e_toMs_le _) ok.vdur))
  rw [h1]
  exact ⟨C19.C19_tkhd_counterexample _ _ _ _ _, p1, p5, p7, p11, p12, p13⟩

/-! ## 2. the video decoder configuration -/

/-- The reader's `stsd` holds one sample entry of the codec's type whose only child is the
    decoder-configuration box built from `vcOf w` (the configuration extracted from the first
    key frame): `avc1 > avcC`, `hvc1 > hvcC`, `av01 > av1C`, `vp09 > vpcC`, found by the reader's
    own `path?`. -/
theorem C19_e2e_video_config (w : Writer) (hr : w.Reachable) (width height : Nat) (md : Option Metadata)
    (fast : Bool) (hok : (w.finalize width height md fast).2.res = .ok)
    (hfit : MoovFits w width height md fast) :
    let file := (w.finalize width height md fast).2.chunks.flatten
    ∀ mv, parseMovie file = some mv → ∀ vt, mv.tracks[0]? = some vt →
      (∀ c, vcOf w = .avc c → path? ["avc1", "avcC"] vt.stsd.kids = some (bAvcC c)) ∧
      (∀ c, vcOf w = .hevc c → path? ["hvc1", "hvcC"] vt.stsd.kids = some (bHvcC c)) ∧
      (∀ c, vcOf w = .av1 c → path? ["av01", "av1C"] vt.stsd.kids = some (bAv1C c)) ∧
      (∀ c, vcOf w = .vp9 c → path? ["vp09", "vpcC"] vt.stsd.kids = some (bVpcC c)) := by
  intro file mv hmv vt ht
  obtain ⟨-, -, -, h4, -⟩ := C19_e2e_video_headers w hr width height md fast hok hfit mv hmv vt ht
  rw [h4]
  refine ⟨?_, ?_, ?_, ?_⟩ <;> intro c hc <;> rw [hc] <;> rfl

/-- … and the strict record decoders of C07 on the configuration box the reader found:
    H.264 — exactly one SPS and one PPS, byte for byte (for parameter sets below 64 KiB, the
    range of the 16-bit length fields); AV1 and VP9 — the fields of the configuration. -/
theorem C19_e2e_video_config_records (w : Writer) (hr : w.Reachable) (width height : Nat) (md : Option Metadata)
    (fast : Bool) (hok : (w.finalize width height md fast).2.res = .ok)
    (hfit : MoovFits w width height md fast) :
    let file := (w.finalize width height md fast).2.chunks.flatten
    ∀ mv, parseMovie file = some mv → ∀ vt, mv.tracks[0]? = some vt →
      (∀ c, vcOf w = .avc c → c.sps.length < 2^16 → c.pps.length < 2^16 →
        (path? ["avc1", "avcC"] vt.stsd.kids).bind (strictAvcC ·.pre) =
          some ⟨(C07.avcHdr c.sps).1, (C07.avcHdr c.sps).2.1, (C07.avcHdr c.sps).2.2, [c.sps], [c.pps]⟩) ∧
      (∀ c, vcOf w = .hevc c → c.vps.length < 2^16 → c.sps.length < 2^16 → c.pps.length < 2^16 →
        ∃ r, (path? ["hvc1", "hvcC"] vt.stsd.kids).bind (strictHvcC ·.pre) = some r ∧
          r.arrays = [(32, [c.vps]), (33, [c.sps]), (34, [c.pps])] ∧ r.lengthSizeMinusOne = 3) ∧
      (∀ c, vcOf w = .av1 c →
        (path? ["av01", "av1C"] vt.stsd.kids).bind (strictAv1C ·.pre) =
          some ⟨c.seqProfile % 8, c.seqLevelIdx % 32, c.seqTier % 2, c.highBitdepth,
            c.twelveBit, c.monochrome, c.subX, c.subY, c.csp % 4, c.sequenceHeader⟩) ∧
      (∀ c, vcOf w = .vp9 c →
        (path? ["vp09", "vpcC"] vt.stsd.kids).bind (strictVpcC ·.pre) =
          some ⟨c.profile % 256, c.level % 256, c.bitDepth % 16, 1, c.fullRange % 2, c.colorSpace % 256,
            c.transfer % 256, c.matrix % 256⟩) := by
  intro file mv hmv vt ht
  obtain ⟨h1, h2, h3, h4⟩ := C19_e2e_video_config w hr width height md fast hok hfit mv hmv vt ht
  refine ⟨?_, ?_, ?_, ?_⟩
  · intro c hc hs hp
    rw [h1 c hc, Option.bind_some]
    exact C07.C07_avcC c hs hp
  · intro c hc hv hs hp
    rw [h2 c hc, Option.bind_some]
    obtain ⟨r, e, a, l, -⟩ := C07.C07_hvcC c hv hs hp
    exact ⟨r, e, a, l⟩
  · intro c hc
    rw [h3 c hc, Option.bind_some]
    exact C07.C07_av1C c
  · intro c hc
    rw [h4 c hc, Option.bind_some]
    exact C07.C07_vpcC_wrap c

/-! ## 3. audio track -/

/-- The decoded audio track (second track, when an audio track is configured): header payloads,
    sample description, media-header type `smhd`, child order of the sample table. -/
theorem C19_e2e_audio_headers (w : Writer) (hr : w.Reachable) (width height : Nat) (md : Option Metadata)
    (fast : Bool) (hok : (w.finalize width height md fast).2.res = .ok)
    (hfit : MoovFits w width height md fast) (tr : AudioTrack) (hau : w.audio = some tr) :
    let file := (w.finalize width height md fast).2.chunks.flatten
    ∀ mv, parseMovie file = some mv → ∀ at_, mv.tracks[1]? = some at_ →
      at_.tkhd = (bTkhd 2 0x0100 0 0 (toMs (aTicks w))).pre ∧
      at_.mdhd = (bMdhd 90000 (aTicks w) (md.bind (·.language))).pre ∧
      at_.hdlr = (bHdlr "soun" "SoundHandler").pre ∧
      at_.stsd = bStsd (bAudioEntry tr) ∧
      at_.mediaHeaderType = ascii "smhd" ∧
      at_.stblTypes = [ascii "stsd", ascii "stts", ascii "stsc", ascii "stsz", ascii "stco"] ∧
      at_.elst = none := by
  intro file mv hmv at_ ht
  obtain ⟨-, -, ha⟩ := e2e_tracks w hr width height md fast hok hfit mv hmv
  rw [ha tr hau at_ ht]
  exact ⟨rfl, rfl, rfl, rfl, rfl, rfl, rfl⟩

/-- The strict decoders on what the reader returned for the audio track: media header, handler
    `soun`, track id 2 and volume 0x0100 in the (non-conformant, see above) `tkhd`, and the audio
    sample entry with its codec configuration: `Opus > dOps` for Opus, `mp4a > esds` otherwise
    (the AAC entry's 16.16 rate field wraps for rates ≥ 65 536, `C07_audio_rate_counterexample`;
    the entry is stated with the wrapped value). -/
theorem C19_e2e_audio_records (w : Writer) (hr : w.Reachable) (width height : Nat) (md : Option Metadata)
    (fast : Bool) (hok : (w.finalize width height md fast).2.res = .ok)
    (hfit : MoovFits w width height md fast) (tr : AudioTrack) (hau : w.audio = some tr) :
    let file := (w.finalize width height md fast).2.chunks.flatten
    ∀ mv, parseMovie file = some mv → ∀ at_, mv.tracks[1]? = some at_ →
      strictMdhd at_.mdhd = some ⟨90000, aTicks w, langCode ((md.bind (·.language)).getD [117, 110, 100])⟩ ∧
      strictHdlr at_.hdlr = some (tag "soun") ∧
      strictTkhd at_.tkhd = none ∧ be at_.tkhd 12 4 = 2 ∧ be at_.tkhd 40 2 = 0x0100 ∧
      be at_.tkhd 20 4 = toMs (aTicks w) ∧
      at_.stsd.kids = [bAudioEntry tr] ∧
      (tr.codec = .opus → tr.channels < 2^16 →
        path? ["Opus", "dOps"] at_.stsd.kids = some (bDops tr) ∧
        at_.stsd.kids.map (fun e => strictAudioEntry e.pre) = [some ⟨tr.channels, 16, 48000 * 65536⟩]) ∧
      (tr.codec ≠ .opus → tr.channels < 2^16 →
        path? ["mp4a", "esds"] at_.stsd.kids = some (bEsds tr) ∧
        strictEsds (bEsds tr).pre = some ⟨0x40, 0x15, ascBytes tr.sampleRate tr.channels⟩ ∧
        at_.stsd.kids.map (fun e => strictAudioEntry e.pre) =
          [some ⟨tr.channels, 16, tr.sampleRate % 65536 * 65536⟩]) := by
  intro file mv hmv at_ ht
  obtain ⟨h1, h2, h3, h4, -⟩ := C19_e2e_audio_headers w hr width height md fast hok hfit tr hau mv hmv at_ ht
  have s2 : aTicks w < 2^32 := Nat.lt_succ_of_le (finalize_ok hok).adur
  obtain ⟨-, -, -, -, p5, -, p7, -, p9, -⟩ :=
    C19.C19_tkhd_partial 2 0x0100 0 0 (toMs (aTicks w)) (by omega) (by omega) (by omega) (by omega)
      (Nat.lt_of_le_of_lt (C19_e2e_toMs_le _) s2)
  rw [h1, h2, h3, h4]
  refine ⟨C19.C19_mdhd_90k _ _ s2, C19.C19_hdlr.2, C19.C19_tkhd_counterexample _ _ _ _ _, p5, p9, p7, rfl, ?_, ?_⟩
  · intro hc hch
    rw [bAudioEntry_eq, if_pos hc]
    exact ⟨rfl, congrArg (fun e => [e]) (C07.C07_opus_entry tr hch).2⟩
  · intro hc hch
    rw [bAudioEntry_eq, if_neg hc]
    exact ⟨rfl, C07.C07_esds tr, congrArg (fun e => [e]) (C07.C07_mp4a_entry_wrap tr hch)⟩

/-! ## 4. movie header and track ids -/

/-- The reader's `mvhd` payload is that of `bMvhd` with the movie duration in ms (the longer
    track) and the next-track id of `C19_track_ids`; the strict decoder recovers timescale 1000,
    that duration and that id; and the track ids read from the tracks' `tkhd` payloads (1, and 2
    with an audio track) are distinct, non-zero and below the next-track id. -/
theorem C19_e2e_mvhd (w : Writer) (hr : w.Reachable) (width height : Nat) (md : Option Metadata)
    (fast : Bool) (hok : (w.finalize width height md fast).2.res = .ok)
    (hfit : MoovFits w width height md fast) :
    let file := (w.finalize width height md fast).2.chunks.flatten
    ∀ mv, parseMovie file = some mv →
      mv.mvhd = (bMvhd (movieMs w) (nextTrackId w)).pre ∧
      strictMvhd mv.mvhd = some ⟨1000, movieMs w, nextTrackId w⟩ ∧
      be mv.mvhd 96 4 = nextTrackId w ∧
      mv.tracks.map (fun t => be t.tkhd 12 4) = (if w.audio.isSome then [1, 2] else [1]) ∧
      mv.moov = writtenMoov w width height md fast := by
  intro file mv hmv
  obtain ⟨hd, -, -⟩ := e2e_tracks w hr width height md fast hok hfit mv hmv
  have e : mv.mvhd = (bMvhd (movieMs w) (nextTrackId w)).pre := hd.mvhd
  have hms : movieMs w < 2^32 := by
    have s1 : toMs (vTicks w) ≤ u32Max := Nat.le_trans (C19_e2e_toMs_le _) (finalize_ok hok).vdur
    have s2 : toMs (aTicks w) ≤ u32Max := Nat.le_trans (C19_e2e_toMs_le _) (finalize_ok hok).adur
    unfold movieMs
    simp only [u32Max] at s1 s2
    cases w.audio <;> simp only [] <;> omega
  have hn : nextTrackId w < 2^32 := by unfold nextTrackId; split <;> omega
  have hs := C19.C19_mvhd (movieMs w) (nextTrackId w) hms hn
  refine ⟨e, by rw [e]; exact hs, ?_, ?_, hd.moov⟩
  · rw [e, bMvhd_nextTrackId, Nat.mod_eq_of_lt hn]
  · -- the track ids are fields of the `tkhd` payloads
    rw [hd.tracks, tracksOf]
    cases w.audio <;> simp [videoTrackOf, audioTrackOf, bTkhd_trackId]

/-! ## Non-vacuity -/
namespace Example
open Muxide.Props.C01E2E.Example

theorem wE_vc : vcOf wE = .avc ⟨[103, 66, 0, 30], [104, 206]⟩ := by rw [wE_eq]; rfl

/-- the example writer of C01E2E (H.264 + Opus), both layouts: the reader's video `stsd` leads to
    the `avcC` whose strict decoding gives back the SPS and PPS of the first key frame; the
    handler types are `vide` / `soun`; the audio entry is the Opus entry with `dOps`; the movie
    header carries next-track id 3 and the tracks the ids 1 and 2 -/
example (fast : Bool) : ∃ mv vt at_, parseMovie (wE.finalize 640 480 none fast).2.chunks.flatten = some mv ∧
    mv.tracks[0]? = some vt ∧ mv.tracks[1]? = some at_ ∧
    (path? ["avc1", "avcC"] vt.stsd.kids).bind (strictAvcC ·.pre) =
      some ⟨66, 0, 30, [[103, 66, 0, 30]], [[104, 206]]⟩ ∧
    vt.stsd.kids.map (fun e => strictVisualEntry e.pre) = [some ⟨640, 480⟩] ∧
    strictHdlr vt.hdlr = some (tag "vide") ∧ strictHdlr at_.hdlr = some (tag "soun") ∧
    vt.mediaHeaderType = ascii "vmhd" ∧ at_.mediaHeaderType = ascii "smhd" ∧
    vt.stblTypes = [ascii "stsd", ascii "stts", ascii "stsc", ascii "stsz", ascii "stco", ascii "stss"] ∧
    path? ["Opus", "dOps"] at_.stsd.kids = some (bDops tr0) ∧
    be mv.mvhd 96 4 = 3 ∧ mv.tracks.map (fun t => be t.tkhd 12 4) = [1, 2] := by
  obtain ⟨mv, vt, hmv, -, h0, -, ha⟩ := C01_e2e wE wE_reachable 640 480 none fast (wE_ok fast) (wE_fits fast)
  obtain ⟨at_, h1, -⟩ := ha tr0 wE_au
  obtain ⟨-, -, -, -, v5, -⟩ := C19_e2e_video_headers wE wE_reachable 640 480 none fast (wE_ok fast) (wE_fits fast) mv hmv vt h0
  obtain ⟨-, r2, -, -, r5⟩ := C19_e2e_video_records wE wE_reachable 640 480 none fast (wE_ok fast) (wE_fits fast) mv hmv vt h0
  obtain ⟨c1, -⟩ := C19_e2e_video_config_records wE wE_reachable 640 480 none fast (wE_ok fast) (wE_fits fast) mv hmv vt h0
  have so := C19_e2e_video_stbl_order wE wE_reachable 640 480 none fast (wE_ok fast) (wE_fits fast) mv hmv vt h0
  obtain ⟨-, -, -, -, a5, -⟩ := C19_e2e_audio_headers wE wE_reachable 640 480 none fast (wE_ok fast) (wE_fits fast) tr0 wE_au mv hmv at_ h1
  obtain ⟨-, q2, -, -, -, -, -, q8, -⟩ := C19_e2e_audio_records wE wE_reachable 640 480 none fast (wE_ok fast) (wE_fits fast) tr0 wE_au mv hmv at_ h1
  obtain ⟨-, -, m3, m4, -⟩ := C19_e2e_mvhd wE wE_reachable 640 480 none fast (wE_ok fast) (wE_fits fast) mv hmv
  refine ⟨mv, vt, at_, hmv, h0, h1, ?_, r5, r2, q2, v5, a5, ?_, (q8 rfl (by decide)).1, ?_, ?_⟩
  · exact c1 _ wE_vc (by decide) (by decide)
  · rw [so, wE_eq]; rfl
  · rw [m3]; unfold nextTrackId; rw [wE_au]; rfl
  · rw [m4, wE_au]; rfl
end Example

end Muxide.Props.C19E2E
