import Muxide.Lemmas.Cli
/-
  C20 — The CLI writes what the library writes and fails loudly otherwise.
  The pure logic of the binary (hex decoding, validate verdict, info walk) is modelled in
  Muxide/Model/Cli.lean; clap, exit codes and the file system are glue covered by the
  correspondence run against the built binary (labelled partial in DESIGN.md).
-/
namespace Muxide.Props.C20
open Muxide

/-- ASCII code of a hex digit: `'0'` = 48, and `'a'` = 97 = 87 + 10 -/
def hexDigitChar (n : Nat) : Nat := if n < 10 then 48 + n else 87 + n

/-- lower-case hex text of a byte string -/
def hexText (b : Bytes) : List Nat := b.flatMap fun x => [hexDigitChar (x.toNat / 16), hexDigitChar (x.toNat % 16)]

/-- the sixteen digits are checked one by one: each is decoded to its value … -/
theorem hexVal_digit (n : Nat) (h : n < 16) : hexVal (hexDigitChar n) = some n :=
  (by decide : ∀ n < 16, hexVal (hexDigitChar n) = some n) n h

/-- … is not whitespace … -/
theorem hexDigit_not_ws (n : Nat) (h : n < 16) : isRustWhitespace (hexDigitChar n) = false :=
  (by decide : ∀ n < 16, isRustWhitespace (hexDigitChar n) = false) n h

/-- … and is ASCII -/
theorem hexDigit_ascii (n : Nat) (h : n < 16) : hexDigitChar n < 128 := by
  unfold hexDigitChar; split <;> omega

theorem hexPairs_hexText (b : Bytes) : hexPairs (hexText b) = some b := by
  induction b with
  | nil => rfl
  | cons x xs ih =>
    have hx := x.toNat_lt
    have e : hexPair (hexDigitChar (x.toNat / 16)) (hexDigitChar (x.toNat % 16)) = some x.toNat := by
      rw [hexPair, hexVal_digit _ (by omega), hexVal_digit _ (by omega)]
      exact congrArg some (Nat.div_add_mod' _ 16)
    show hexPairs (_ :: _ :: hexText xs) = _
    rw [hexPairs, e, ih]
    simp [u8]

/-- **hex decoding inverts hex printing**: every byte string written as lower-case hex text is
    read back exactly by the CLI's `read_hex_bytes` -/
theorem C20_hex_roundtrip (b : Bytes) : readHexBytes (hexText b) = some b := by
  have hf : (hexText b).filter (fun c => !isRustWhitespace c) = hexText b := by
    apply List.filter_eq_self.mpr
    intro c hc
    simp only [hexText, List.mem_flatMap] at hc
    obtain ⟨x, _, hx⟩ := hc
    have := x.toNat_lt
    simp at hx
    rcases hx with rfl | rfl <;> simp <;> exact hexDigit_not_ws _ (by omega)
  rw [readHexBytes_eq, hf, hexPairs_hexText]

theorem hexPairs_all_hex : ∀ (n : Nat) (l : List Nat), l.length = 2 * n → (∀ c ∈ l, (hexVal c).isSome = true) →
    ∃ d, hexPairs l = some d ∧ d.length = n := by
  intro n l hl hc
  obtain ⟨d, hd⟩ := Option.isSome_iff_exists.mp ((hexPairs_isSome_iff l).2 ⟨by omega, hc⟩)
  exact ⟨d, hd, by have := hexPairs_length l d hd; omega⟩

theorem hexVal_ascii (c : Nat) (h : (hexVal c).isSome = true) : c < 128 := by
  have := (hexVal_isSome_iff c).1 h
  omega

/-- the `info` walk: every listed
    entry starts inside the file with a complete 8-byte header, and a non-final entry's box lies
    completely inside the file -/
theorem C20_info_entries (fuel : Nat) (buf : Bytes) (off : Nat) :
    ∀ e ∈ infoWalk fuel buf off, off ≤ e.offset ∧ e.offset + 8 ≤ buf.length ∧ e.size ≠ 0 ∧
      (e.invalid = false → e.offset + e.size ≤ buf.length) := by
  fun_induction infoWalk fuel buf off with
  | case1 | case2 | case3 | case4 => simp
  | case5 => simp; omega
  | case6 fuel buf off hlen size rest hr typ hz hfit ih =>
    intro e he
    rcases List.mem_cons.mp he with rfl | he'
    · simp; omega
    · obtain ⟨h1, h2⟩ := ih e he'; exact ⟨by omega, h2⟩

/-- the walk makes progress: from offset `off` it lists at most `buf.length - off + 1` boxes whatever the
    contents (each iteration advances the offset by the non-zero box size) -/
theorem C20_info_terminates (fuel : Nat) (buf : Bytes) (off : Nat) :
    (infoWalk fuel buf off).length ≤ buf.length - off + 1 := by
  fun_induction infoWalk fuel buf off <;> simp <;> omega

/-! ## validate ⇄ mux: the converse direction

Each aligned pair must be two ASCII hex digits (`hexPair`); `u8::from_str_radix` alone would also
take a leading `+` (`"+a"` = 10), which `validate` never accepted — that corner was a defect of the
original tool (mux decoded files that validate rejected) and is repaired: see `C20_plus_rejected`. -/

/-- the repaired corner: the two-character text `+a` is refused by `mux`'s decoder -/
theorem C20_plus_rejected : readHexBytes [43, 97] = none := by decide

/-- what `mux` accepts (decoder-independent): the non-whitespace characters are a non-empty,
    even-length string over `0-9A-Fa-f` -/
theorem C20_mux_input_char (chars : List Nat) :
    (∃ d, readHexBytes chars = some d ∧ d ≠ []) ↔
      (let hexs := chars.filter (fun c => !isRustWhitespace c)
       hexs ≠ [] ∧ hexs.length % 2 = 0 ∧
         ∀ c ∈ hexs, (48 ≤ c ∧ c ≤ 57) ∨ (65 ≤ c ∧ c ≤ 70) ∨ (97 ≤ c ∧ c ≤ 102)) := by
  simp only [← hexVal_isSome_iff, ← hexPairs_isSome_iff, readHexBytes_eq]
  generalize chars.filter (fun c => !isRustWhitespace c) = hexs
  rw [Option.isSome_iff_exists]
  constructor
  · rintro ⟨d, hr, hd⟩; exact ⟨(hexPairs_ne_nil hr).1 hd, d, hr⟩
  · rintro ⟨hne, d, hr⟩; exact ⟨d, hr, (hexPairs_ne_nil hr).2 hne⟩

/-- explicit characterisation of `validate`'s verdict, independent of the decoder: strict UTF-8,
    and the non-whitespace characters are a non-empty, even-length string over `0-9A-Fa-f` -/
theorem C20_validate_char (content : Bytes) :
    hexFileValid content = true ↔
      ∃ chars, utf8Strict content = some chars ∧
        (let hexs := chars.filter (fun c => !isRustWhitespace c)
         hexs ≠ [] ∧ hexs.length % 2 = 0 ∧
           ∀ c ∈ hexs, (48 ≤ c ∧ c ≤ 57) ∨ (65 ≤ c ∧ c ≤ 70) ∨ (97 ≤ c ∧ c ≤ 102)) := by
  unfold hexFileValid
  cases hu : utf8Strict content with
  | none => simp
  | some chars =>
    simp only [Bool.and_eq_true, Bool.not_eq_true', beq_iff_eq, List.all_eq_true,
      List.isEmpty_eq_false_iff, Option.some.injEq, exists_eq_left', hexVal_isSome_iff, and_assoc]

/-- whatever `validate` calls valid hex, `mux` can decode to a non-empty frame -/
theorem C20_validate_sound (content : Bytes) (h : hexFileValid content = true) :
    ∃ chars d, utf8Strict content = some chars ∧ readHexBytes chars = some d ∧ d ≠ [] := by
  obtain ⟨chars, hu, hc⟩ := (C20_validate_char content).1 h
  obtain ⟨d, hr, hd⟩ := (C20_mux_input_char chars).2 hc
  exact ⟨chars, d, hu, hr, hd⟩

/-- converse of `C20_validate_sound`: whatever `mux` can decode to a non-empty frame, `validate`
    calls valid hex -/
theorem C20_validate_complete (content : Bytes) (chars : List Nat) (d : Bytes)
    (hu : utf8Strict content = some chars) (hr : readHexBytes chars = some d) (hd : d ≠ []) :
    hexFileValid content = true :=
  (C20_validate_char content).mpr ⟨chars, hu, (C20_mux_input_char chars).mp ⟨d, hr, hd⟩⟩

/-- `validate` says "valid" exactly for the inputs `mux` can decode to a non-empty frame -/
theorem C20_validate_iff_mux_input (content : Bytes) :
    hexFileValid content = true ↔
      ∃ chars d, utf8Strict content = some chars ∧ readHexBytes chars = some d ∧ d ≠ [] :=
  ⟨C20_validate_sound content, fun ⟨chars, d, hu, hr, hd⟩ => C20_validate_complete content chars d hu hr hd⟩

/-! ## info ⇄ the independent reader -/

/-- the `info` walk agrees with the independent reader on every file the reader accepts (no side
    condition: the empty file gives `[]` on both sides, boxes of size exactly 8 are listed, and
    the reader rejects sizes 0, 1 and < 8 so they never reach the conclusion): the listed
    (type, offset, size) triples are the reader's top-level layout and no entry is flagged -/
theorem C20_info_matches_reader (buf : Bytes) (boxes : List Box)
    (h : Spec.parseFileTree buf = some boxes) :
    (infoBoxes buf).map (fun e => (e.typ, e.offset, e.size)) = Spec.topLayout boxes 0 ∧
    (∀ e ∈ infoBoxes buf, e.invalid = false) ∧
    (infoBoxes buf).length = boxes.length ∧ Box.sizes boxes = buf.length := by
  unfold Spec.parseFileTree at h
  rw [infoBoxes_parse _ _ buf boxes h]
  refine ⟨?_, ?_, ?_, parseBoxes_sizes _ _ _ _ h⟩
  · rw [List.map_map]; exact List.map_id _
  · intro e he
    obtain ⟨t, _, rfl⟩ := List.mem_map.1 he
    rfl
  · rw [List.length_map, topLayout_length]

/-- for arbitrary bytes, the entries `info` lists without the "exceeds file" flag tile a prefix of
    the file: their offsets are the running sum of their sizes from 0, and they fit in the file -/
theorem C20_info_prefix_tiling (buf : Bytes) :
    let es := (infoBoxes buf).filter (fun e => !e.invalid)
    es.map (·.offset) = runningOffsets (es.map (·.size)) 0 ∧ (es.map (·.size)).sum ≤ buf.length := by
  have := infoWalk_tiles (buf.length + 1) buf 0
  unfold infoBoxes
  simp only [] at this ⊢
  exact ⟨this.1, by have := this.2 (Nat.zero_le _); omega⟩

/-! ## Non-vacuity -/

/-- a hand-written 20-byte file: an empty `free` box and a `skip` box with 4 payload bytes -/
def exFile : Bytes := [0, 0, 0, 8, 102, 114, 101, 101, 0, 0, 0, 12, 115, 107, 105, 112, 1, 2, 3, 4]

/-- the reader accepts it (two childless boxes), so `C20_info_matches_reader` applies -/
example : (Spec.parseFileTree exFile).map (List.map fun b => (b.typ, b.pre, b.kids.length)) =
    some [([102, 114, 101, 101], [], 0), ([115, 107, 105, 112], [1, 2, 3, 4], 0)] := by decide +kernel
example : (Spec.parseFileTree exFile).map (Spec.topLayout · 0) =
    some [([102, 114, 101, 101], 0, 8), ([115, 107, 105, 112], 8, 12)] := by decide +kernel
example : (infoBoxes exFile).map (fun e => (e.typ, e.offset, e.size)) =
    [([102, 114, 101, 101], 0, 8), ([115, 107, 105, 112], 8, 12)] := by decide
example : infoBoxes exFile =
    [⟨[102, 114, 101, 101], 8, 0, false⟩, ⟨[115, 107, 105, 112], 12, 8, false⟩] := by decide
example : Spec.topLayout [Box.mk [102, 114, 101, 101] [] [], Box.mk [115, 107, 105, 112] [1, 2, 3, 4] []] 0 =
    [([102, 114, 101, 101], 0, 8), ([115, 107, 105, 112], 8, 12)] := by decide
/-- a truncated file: the second box claims 12 bytes but only 8 remain → flagged, filtered out -/
example : infoBoxes (exFile.take 16) =
    [⟨[102, 114, 101, 101], 8, 0, false⟩, ⟨[115, 107, 105, 112], 12, 8, true⟩] := by decide
/-- the hypotheses of the validate theorems are satisfiable: `0a 1F` -/
example : hexFileValid [48, 97, 32, 49, 70] = true := by decide
example : utf8Strict [48, 97, 32, 49, 70] = some [48, 97, 32, 49, 70] ∧
    readHexBytes [48, 97, 32, 49, 70] = some [0x0a, 0x1f] := by decide

end Muxide.Props.C20
