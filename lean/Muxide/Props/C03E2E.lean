import Muxide.Props.C01E2E
import Muxide.Props.C19
/-
  C03 (end to end) — the TIMING a reader sees. The independent reader `Spec.parseMovie`, applied to
  the very bytes `Writer.finalize` hands to the sink, returns tracks whose decoded `stts` / `ctts`
  tables and `mdhd` payload carry exactly the timing of the accepted frames:
  * the run-length expanded `stts` is the list of sample durations `durationsOf …` — the steps of
    the submitted decode timestamps, the last sample repeating the preceding step (1 tick for a
    lone sample; nothing for an empty track);
  * hence the decode time of sample `i` read from the file is `dts_i − dts_0`, with no drift;
  * the video `ctts` is absent exactly when every accepted frame has `pts = dts`, and otherwise its
    expansion is `pts − dts` per frame — for ALL timestamps: no bound on their magnitude is needed
    (the offset is computed in 128 bits; only its `i32` range matters, which the writer checks
    when it accepts the frame and which `Writer.Reachable` therefore implies);
  * the audio track never has a `ctts`;
  * each track's `mdhd` carries timescale 90 000 and, as duration, the sum of that track's sample
    durations as read from its `stts`.
  Same hypotheses as C01E2E: reachable writer, `finalize` returned ok, `MoovFits`.
  Composition of `e2e_tracks` (Lemmas/E2E2.lean) with C03 (`track_nodrift'`, `C03_durations`,
  `tables_ctts`, `C03_mdhd`), the duration guards of `finalize` (`finalize_ok`) and C19 (`strictMdhd`).
-/
namespace Muxide.Props.C03E2E
open Muxide Muxide.Spec Muxide.Props.C08 Muxide.Props.C01E2E

/-- the composition offset the reader applies to sample `i` of a track: 0 without a `ctts` -/
def ctsAt (t : Track) (i : Nat) : Int :=
  match t.ctts with
  | none => 0
  | some c => (expandRuns c).getD i 0

/-! ## 1. video: decode-time table -/

/-- The first track's `stts`, as decoded by the reader from the file, is the run-length table of
    the writer's per-sample durations; expanded, it is that list, one entry per accepted frame. -/
theorem C03_e2e_video_stts (w : Writer) (hr : w.Reachable) (width height : Nat) (md : Option Metadata)
    (fast : Bool) (hok : (w.finalize width height md fast).2.res = .ok)
    (hfit : MoovFits w width height md fast) :
    let file := (w.finalize width height md fast).2.chunks.flatten
    ∀ mv, parseMovie file = some mv → ∀ t, mv.tracks[0]? = some t →
      t.stts = rle (durationsOf w.vsRev.reverse w.vLastDelta) ∧
      expandRuns t.stts = durationsOf w.vsRev.reverse w.vLastDelta ∧
      (expandRuns t.stts).length = w.vsRev.length := by
  intro file mv hmv t ht
  obtain ⟨-, hv, -⟩ := e2e_tracks w hr width height md fast hok hfit mv hmv
  have e : t.stts = rle (durationsOf w.vsRev.reverse w.vLastDelta) := by rw [hv t ht]; rfl
  rw [e, expandRuns_rle, durationsOf_length]
  exact ⟨rfl, rfl, by simp⟩

/-- … in closed form: no entry for an empty track, one tick for a lone frame, and otherwise the
    steps of the decode timestamps followed by a repetition of the last step (`s` the newest,
    `t'` the second newest accepted frame). -/
theorem C03_e2e_video_durations (w : Writer) (hr : w.Reachable) (width height : Nat) (md : Option Metadata)
    (fast : Bool) (hok : (w.finalize width height md fast).2.res = .ok)
    (hfit : MoovFits w width height md fast) :
    let file := (w.finalize width height md fast).2.chunks.flatten
    ∀ mv, parseMovie file = some mv → ∀ t, mv.tracks[0]? = some t →
      (w.vsRev = [] → expandRuns t.stts = []) ∧
      (∀ s, w.vsRev = [s] → expandRuns t.stts = [1]) ∧
      (∀ s t' r, w.vsRev = s :: t' :: r →
        expandRuns t.stts =
          List.zipWith (· - ·) (dtsOf w.vsRev).tail (dtsOf w.vsRev) ++ [s.dts - t'.dts]) := by
  intro file mv hmv t ht
  obtain ⟨-, e, -⟩ := C03_e2e_video_stts w hr width height md fast hok hfit mv hmv t ht
  rw [e]
  exact C03.C03_durations w hr.timing.1

/-- The decode time of sample `i` read from the file — the sum of the first `i` expanded `stts`
    entries — is `dts_i − dts_0` of the accepted frames: exact, no accumulated drift. -/
theorem C03_e2e_video_dts (w : Writer) (hr : w.Reachable) (width height : Nat) (md : Option Metadata)
    (fast : Bool) (hok : (w.finalize width height md fast).2.res = .ok)
    (hfit : MoovFits w width height md fast) :
    let file := (w.finalize width height md fast).2.chunks.flatten
    ∀ mv, parseMovie file = some mv → ∀ t, mv.tracks[0]? = some t →
      ∀ i s0 si, w.vsRev.reverse[0]? = some s0 → w.vsRev.reverse[i]? = some si →
        ((expandRuns t.stts).take i).sum = si.dts - s0.dts ∧ s0.dts ≤ si.dts := by
  intro file mv hmv t ht i s0 si h0 hi
  obtain ⟨-, e, -⟩ := C03_e2e_video_stts w hr width height md fast hok hfit mv hmv t ht
  rw [e]
  have := track_nodrift' hr.timing.1 i s0 si h0 hi
  omega

/-! ## 2. video: composition-time table -/

/-- The first track's `ctts` as decoded by the reader: absent exactly when every accepted video
    frame has `pts = dts`; otherwise it is the run-length table of `pts − dts` per frame, in
    submission order. No hypothesis on the size of the timestamps. -/
theorem C03_e2e_video_ctts (w : Writer) (hr : w.Reachable) (width height : Nat) (md : Option Metadata)
    (fast : Bool) (hok : (w.finalize width height md fast).2.res = .ok)
    (hfit : MoovFits w width height md fast) :
    let file := (w.finalize width height md fast).2.chunks.flatten
    ∀ mv, parseMovie file = some mv → ∀ t, mv.tracks[0]? = some t →
      (t.ctts = none ↔ ∀ s ∈ w.vsRev, s.pts = s.dts) ∧
      (∀ c, t.ctts = some c →
        c = rle (w.vsRev.reverse.map fun s => (s.pts : Int) - s.dts) ∧
        expandRuns c = w.vsRev.reverse.map fun s => (s.pts : Int) - s.dts) := by
  intro file mv hmv t ht
  obtain ⟨-, hv, -⟩ := e2e_tracks w hr width height md fast hok hfit mv hmv
  obtain ⟨hc, hb⟩ := vTablesOf_cts w hr.timing.1 (offsetsAt w (mediaStart w width height md fast))
  have e : t.ctts = if w.vsRev.any (fun s => decide (s.pts ≠ s.dts))
      then some (rle (w.vsRev.reverse.map fun s => (s.pts : Int) - s.dts)) else none := by
    rw [hv t ht, ← hc, ← hb]; rfl
  have hall : (∀ s ∈ w.vsRev, s.pts = s.dts) ↔ ¬ w.vsRev.any (fun s => decide (s.pts ≠ s.dts)) = true := by
    simp only [List.any_eq_true, decide_eq_true_eq, not_exists, not_and, Decidable.not_not]
  rw [e, hall]
  split
  · next hB => exact ⟨⟨nofun, fun h => absurd hB h⟩, fun c hc' => by cases hc'; exact ⟨rfl, expandRuns_rle _⟩⟩
  · next hB => exact ⟨⟨fun _ => hB, fun _ => rfl⟩, nofun⟩

/-- The composition offset the reader applies to sample `i` of the first track (0 without a
    `ctts`) is `pts_i − dts_i` of the `i`-th accepted frame … -/
theorem C03_e2e_video_cts (w : Writer) (hr : w.Reachable) (width height : Nat) (md : Option Metadata)
    (fast : Bool) (hok : (w.finalize width height md fast).2.res = .ok)
    (hfit : MoovFits w width height md fast) :
    let file := (w.finalize width height md fast).2.chunks.flatten
    ∀ mv, parseMovie file = some mv → ∀ t, mv.tracks[0]? = some t →
      ∀ i si, w.vsRev.reverse[i]? = some si → ctsAt t i = (si.pts : Int) - si.dts := by
  intro file mv hmv t ht i si hi
  obtain ⟨h1, h2⟩ := C03_e2e_video_ctts w hr width height md fast hok hfit mv hmv t ht
  unfold ctsAt
  cases hc : t.ctts with
  | none =>
    have := h1.mp hc si (List.mem_reverse.mp (List.mem_of_getElem? hi))
    simp only []
    omega
  | some c =>
    simp only []
    rw [(h2 c hc).2, List.getD_eq_getElem?_getD, List.getElem?_map, hi]
    rfl

/-- … hence the presentation time of sample `i` read from the file (decode time plus composition
    offset), counted from the first decode timestamp, is the submitted `pts_i`. -/
theorem C03_e2e_video_pts (w : Writer) (hr : w.Reachable) (width height : Nat) (md : Option Metadata)
    (fast : Bool) (hok : (w.finalize width height md fast).2.res = .ok)
    (hfit : MoovFits w width height md fast) :
    let file := (w.finalize width height md fast).2.chunks.flatten
    ∀ mv, parseMovie file = some mv → ∀ t, mv.tracks[0]? = some t →
      ∀ i s0 si, w.vsRev.reverse[0]? = some s0 → w.vsRev.reverse[i]? = some si →
        (s0.dts : Int) + (((expandRuns t.stts).take i).sum : Nat) + ctsAt t i = si.pts := by
  intro file mv hmv t ht i s0 si h0 hi
  obtain ⟨h1, h2⟩ := C03_e2e_video_dts w hr width height md fast hok hfit mv hmv t ht i s0 si h0 hi
  rw [C03_e2e_video_cts w hr width height md fast hok hfit mv hmv t ht i si hi, h1]
  omega

/-! ## 3. audio -/

/-- The second track's decoded `stts`, when an audio track is configured: the run-length table of
    the audio durations; expanded, one entry per accepted audio frame (none for an audio track
    without frames). -/
theorem C03_e2e_audio_stts (w : Writer) (hr : w.Reachable) (width height : Nat) (md : Option Metadata)
    (fast : Bool) (hok : (w.finalize width height md fast).2.res = .ok)
    (hfit : MoovFits w width height md fast) (tr : AudioTrack) (hau : w.audio = some tr) :
    let file := (w.finalize width height md fast).2.chunks.flatten
    ∀ mv, parseMovie file = some mv → ∀ t, mv.tracks[1]? = some t →
      t.stts = rle (durationsOf w.asRev.reverse w.aLastDelta) ∧
      expandRuns t.stts = durationsOf w.asRev.reverse w.aLastDelta ∧
      (expandRuns t.stts).length = w.asRev.length := by
  intro file mv hmv t ht
  obtain ⟨-, -, ha⟩ := e2e_tracks w hr width height md fast hok hfit mv hmv
  have e : t.stts = rle (durationsOf w.asRev.reverse w.aLastDelta) := by rw [ha tr hau t ht]; rfl
  rw [e, expandRuns_rle, durationsOf_length]
  exact ⟨rfl, rfl, by simp⟩

/-- closed form of the audio durations (steps of the non-decreasing audio timestamps, the last
    step repeated; one tick for a lone frame) -/
theorem C03_e2e_audio_durations (w : Writer) (hr : w.Reachable) (width height : Nat) (md : Option Metadata)
    (fast : Bool) (hok : (w.finalize width height md fast).2.res = .ok)
    (hfit : MoovFits w width height md fast) (tr : AudioTrack) (hau : w.audio = some tr) :
    let file := (w.finalize width height md fast).2.chunks.flatten
    ∀ mv, parseMovie file = some mv → ∀ t, mv.tracks[1]? = some t →
      (w.asRev = [] → expandRuns t.stts = []) ∧
      (∀ s, w.asRev = [s] → expandRuns t.stts = [1]) ∧
      (∀ s t' r, w.asRev = s :: t' :: r →
        expandRuns t.stts =
          List.zipWith (· - ·) (dtsOf w.asRev).tail (dtsOf w.asRev) ++ [s.dts - t'.dts]) := by
  intro file mv hmv t ht
  obtain ⟨-, e, -⟩ := C03_e2e_audio_stts w hr width height md fast hok hfit tr hau mv hmv t ht
  rw [e]
  exact C03.C03_durations_audio w hr.timing.2

/-- decode (= presentation) time of audio sample `i` read from the file: `pts_i − pts_0` -/
theorem C03_e2e_audio_dts (w : Writer) (hr : w.Reachable) (width height : Nat) (md : Option Metadata)
    (fast : Bool) (hok : (w.finalize width height md fast).2.res = .ok)
    (hfit : MoovFits w width height md fast) (tr : AudioTrack) (hau : w.audio = some tr) :
    let file := (w.finalize width height md fast).2.chunks.flatten
    ∀ mv, parseMovie file = some mv → ∀ t, mv.tracks[1]? = some t →
      ∀ i s0 si, w.asRev.reverse[0]? = some s0 → w.asRev.reverse[i]? = some si →
        ((expandRuns t.stts).take i).sum = si.pts - s0.pts ∧ s0.pts ≤ si.pts := by
  intro file mv hmv t ht i s0 si h0 hi
  obtain ⟨-, e, -⟩ := C03_e2e_audio_stts w hr width height md fast hok hfit tr hau mv hmv t ht
  rw [e]
  have := track_nodrift' hr.timing.2.1 i s0 si h0 hi
  have e0 := hr.timing.2.2 s0 (List.mem_reverse.mp (List.mem_of_getElem? h0))
  have ei := hr.timing.2.2 si (List.mem_reverse.mp (List.mem_of_getElem? hi))
  omega

/-- the audio track has no composition-time table: presentation time = decode time -/
theorem C03_e2e_audio_no_ctts (w : Writer) (hr : w.Reachable) (width height : Nat) (md : Option Metadata)
    (fast : Bool) (hok : (w.finalize width height md fast).2.res = .ok)
    (hfit : MoovFits w width height md fast) (tr : AudioTrack) (hau : w.audio = some tr) :
    let file := (w.finalize width height md fast).2.chunks.flatten
    ∀ mv, parseMovie file = some mv → ∀ t, mv.tracks[1]? = some t → t.ctts = none := by
  intro file mv hmv t ht
  obtain ⟨-, -, ha⟩ := e2e_tracks w hr width height md fast hok hfit mv hmv
  rw [ha tr hau t ht]; rfl

/-! ## 4. media headers -/

/-- Each decoded track's `mdhd` payload, read with the strict ISO decoder: timescale 90 000, and
    as duration the sum of that track's sample durations as read from its own `stts` (which is
    the sum of the writer's durations); the 32-bit fields are also given as raw reads at payload
    offsets 12 and 16. Video track (index 0) and, when configured, audio track (index 1). -/
theorem C03_e2e_mdhd_duration (w : Writer) (hr : w.Reachable) (width height : Nat) (md : Option Metadata)
    (fast : Bool) (hok : (w.finalize width height md fast).2.res = .ok)
    (hfit : MoovFits w width height md fast) :
    let file := (w.finalize width height md fast).2.chunks.flatten
    ∀ mv, parseMovie file = some mv →
      (∀ t, mv.tracks[0]? = some t →
        (expandRuns t.stts).sum = (durationsOf w.vsRev.reverse w.vLastDelta).sum ∧
        (strictMdhd t.mdhd).map (fun m => (m.timescale, m.duration)) = some (90000, (expandRuns t.stts).sum) ∧
        be t.mdhd 12 4 = 90000 ∧ be t.mdhd 16 4 = (expandRuns t.stts).sum ∧
        ∃ rest, readU32 (t.mdhd.drop 16) = some ((expandRuns t.stts).sum, rest)) ∧
      (∀ tr, w.audio = some tr → ∀ t, mv.tracks[1]? = some t →
        (expandRuns t.stts).sum = (durationsOf w.asRev.reverse w.aLastDelta).sum ∧
        (strictMdhd t.mdhd).map (fun m => (m.timescale, m.duration)) = some (90000, (expandRuns t.stts).sum) ∧
        be t.mdhd 12 4 = 90000 ∧ be t.mdhd 16 4 = (expandRuns t.stts).sum ∧
        ∃ rest, readU32 (t.mdhd.drop 16) = some ((expandRuns t.stts).sum, rest)) := by
  intro file mv hmv
  obtain ⟨-, hv, ha⟩ := e2e_tracks w hr width height md fast hok hfit mv hmv
  -- the strict decoder returns the two 32-bit fields at offsets 12 and 16
  have fields : ∀ {p : Bytes} {m : Mdhd}, strictMdhd p = some m → be p 12 4 = m.timescale ∧ be p 16 4 = m.duration := by
    intro p m hp
    unfold strictMdhd at hp
    split at hp
    · cases hp; exact ⟨rfl, rfl⟩
    · cases hp
  -- the media header written for a duration `d` that fits its field, read in the three ways
  have key : ∀ d, d ≤ u32Max →
      (strictMdhd (bMdhd 90000 d (md.bind (·.language))).pre).map (fun m => (m.timescale, m.duration)) = some (90000, d) ∧
      be (bMdhd 90000 d (md.bind (·.language))).pre 12 4 = 90000 ∧
      be (bMdhd 90000 d (md.bind (·.language))).pre 16 4 = d ∧
      ∃ rest, readU32 ((bMdhd 90000 d (md.bind (·.language))).pre.drop 16) = some (d, rest) := by
    intro d hd
    have h := C19.C19_mdhd_90k d (md.bind (·.language)) (Nat.lt_succ_of_le hd)
    obtain ⟨rest, -, r⟩ := C03.C03_mdhd 90000 d (md.bind (·.language)) hd
    exact ⟨by rw [h]; rfl, (fields h).1, (fields h).2, rest, r⟩
  -- either track: its `stts` is the run-length table of the durations whose sum its `mdhd` carries
  refine ⟨fun t ht => ?_, fun tr hau t ht => ?_⟩
  · rw [hv t ht]
    simp only [videoTrackOf, expandRuns_rle]
    exact ⟨rfl, key _ (finalize_ok hok).vdur⟩
  · rw [ha tr hau t ht]
    simp only [audioTrackOf, expandRuns_rle]
    exact ⟨rfl, key _ (finalize_ok hok).adur⟩

/-! ## The corner cases, by evaluation

  (of the reader on the box tree that is written, to which `written_tree` takes the bytes back.)
  None of the statements above excludes a corner: an empty video track (audio only, or nothing at
  all) reads back an empty `stts` and an `mdhd` duration 0; a lone frame reads back one run
  `(1, 1)` — the writer's one-tick default, there being no step to repeat; an audio track that is
  configured but received no frame reads back empty tables. -/

/-- a fresh writer (no frame at all), finalised: the file parses, the video track's timing tables
    are empty and its `mdhd` duration is 0 -/
theorem C03_e2e_empty_track :
    let w : Writer := { codec := .h264 }
    let file := (w.finalize 16 16 none false).2.chunks.flatten
    (parseMovie file).map (fun mv => mv.tracks.map (·.stts)) = some [[]] ∧
    (parseMovie file).map (fun mv => mv.tracks.map (·.ctts)) = some [none] ∧
    (parseMovie file).map (fun mv => mv.tracks.map fun t => (be t.mdhd 12 4, be t.mdhd 16 4)) = some [(90000, 0)] := by
  intro w file
  obtain ⟨h1, h2⟩ := written_tree w 16 16 none false (by decide +kernel) nofun (by unfold MoovFits; decide +kernel)
  rw [show file = fileOf w 16 16 none false from rfl, parseMovie_of_top h1 h2]
  decide +kernel

/-- a lone key frame: one run of one sample lasting the default 1 tick, `mdhd` duration 1 -/
theorem C03_e2e_single_sample_default :
    let w : Writer := { codec := .vp9, vsRev := [⟨7, 5, [1, 2], true, none⟩], vPrev := some 5 }
    let file := (w.finalize 16 16 none false).2.chunks.flatten
    (parseMovie file).map (fun mv => mv.tracks.map (·.stts)) = some [[(1, 1)]] ∧
    (parseMovie file).map (fun mv => mv.tracks.map (·.ctts)) = some [some [(1, 2)]] ∧
    (parseMovie file).map (fun mv => mv.tracks.map fun t => (be t.mdhd 12 4, be t.mdhd 16 4)) = some [(90000, 1)] := by
  intro w file
  obtain ⟨h1, h2⟩ := written_tree w 16 16 none false (by decide +kernel) nofun (by unfold MoovFits; decide +kernel)
  rw [show file = fileOf w 16 16 none false from rfl, parseMovie_of_top h1 h2]
  decide +kernel

/-! ## Non-vacuity -/
namespace Example
open Muxide.Props.C01E2E.Example

theorem wE_durations : durationsOf wE.vsRev.reverse wE.vLastDelta = [3000, 3000] := by
  rw [wE_eq]; decide

/-- for the example writer of C01E2E (two video frames at 0 and 3000 ticks, one audio packet),
    both layouts: the file parses, the video track's expanded `stts` is `[3000, 3000]`, it has no
    `ctts`, the second sample's decode time is 3000, and the `mdhd` duration field holds 6000 -/
example (fast : Bool) : ∃ mv vt at_, parseMovie (wE.finalize 640 480 none fast).2.chunks.flatten = some mv ∧
    mv.tracks[0]? = some vt ∧ mv.tracks[1]? = some at_ ∧
    expandRuns vt.stts = [3000, 3000] ∧ vt.ctts = none ∧ ((expandRuns vt.stts).take 1).sum = 3000 ∧
    be vt.mdhd 12 4 = 90000 ∧ be vt.mdhd 16 4 = 6000 ∧ expandRuns at_.stts = [1] ∧ at_.ctts = none := by
  obtain ⟨mv, vt, hmv, -, h0, -, ha⟩ := C01_e2e wE wE_reachable 640 480 none fast (wE_ok fast) (wE_fits fast)
  obtain ⟨at_, h1, -⟩ := ha tr0 wE_au
  obtain ⟨-, e, -⟩ := C03_e2e_video_stts wE wE_reachable 640 480 none fast (wE_ok fast) (wE_fits fast) mv hmv vt h0
  obtain ⟨c1, -⟩ := C03_e2e_video_ctts wE wE_reachable 640 480 none fast (wE_ok fast) (wE_fits fast) mv hmv vt h0
  obtain ⟨hvm, -⟩ :=
    C03_e2e_mdhd_duration wE wE_reachable 640 480 none fast (wE_ok fast) (wE_fits fast) mv hmv
  obtain ⟨-, -, m1, m2, -⟩ := hvm vt h0
  obtain ⟨-, ea, -⟩ := C03_e2e_audio_stts wE wE_reachable 640 480 none fast (wE_ok fast) (wE_fits fast) tr0 wE_au mv hmv at_ h1
  have na := C03_e2e_audio_no_ctts wE wE_reachable 640 480 none fast (wE_ok fast) (wE_fits fast) tr0 wE_au mv hmv at_ h1
  rw [wE_durations] at e
  refine ⟨mv, vt, at_, hmv, h0, h1, e, ?_, by rw [e]; rfl, m1, by rw [m2, e]; rfl, ?_, na⟩
  · apply c1.mpr
    rw [wE_eq]; decide
  · rw [ea, wE_eq]; decide
end Example

end Muxide.Props.C03E2E
