import Muxide.Lemmas.F64Div
/-
  C06 — "… and, to within one media-clock tick, the largest presentation end time, in seconds".
  `C06_stats` (Props/C06.lean) shows the reported value is `maxEnd as f64 / 90000.0` where `maxEnd` is the
  largest presentation end in ticks.  This file proves the rounding clause: for every `maxEnd` below 2^53
  ticks (3170 years of media clock) that double, read back as ticks, is within one tick of `maxEnd` — on
  the soft-float model, for all values at once.  Beyond 2^53 an `f64` cannot hold whole ticks; that range is
  the recorded finding `stats-duration-f64-precision`, shown by the counterexample at the end.
-/
namespace Muxide.Props.C06Duration
open Muxide Muxide.F64 Muxide.Spec

/-- `90000 = 6184752906240000·2^-36`, the mantissa normalised to 53 bits -/
theorem ofNat_90000 : F64.ofNat 90000 = .fin false 6184752906240000 (-36) := by decide +kernel

/-- the duration statistic: `ticks as f64 / 90000.0` -/
def durationOfTicks (m : Nat) : F64 := F64.div (F64.ofNat m) (F64.ofNat 90000)

theorem ofNat_zero : F64.ofNat 0 = .fin false 0 (-1074) := by rfl

theorem C06_duration_zero : within1Tick (durationOfTicks 0) 0 = true := by decide +kernel

/-- for every end time below 2^53 ticks the reported seconds are within one tick of it -/
theorem C06_duration_within_one_tick (m : Nat) (hm : m < 2 ^ 53) :
    within1Tick (durationOfTicks m) m = true := by
  by_cases h0 : m = 0
  · subst h0; exact C06_duration_zero
  · rw [durationOfTicks, div_ofNat m 90000 h0 (by decide) hm (by decide)]
    exact roundPos_within m h0 hm

/-- beyond 2^53 ticks the clause cannot hold: at 2^63 + 1025 ticks the reported value reads back more than
    a thousand ticks away (the recorded finding `stats-duration-f64-precision`) -/
theorem C06_duration_f64_precision_counterexample :
    within1Tick (durationOfTicks (2 ^ 63 + 1025)) (2 ^ 63 + 1025) = false := by decide +kernel

end Muxide.Props.C06Duration
