import Muxide.Checked.Core
import Muxide.Props.C12Parsers
/-
  C12 (checked models, audio and VP9) — the success path of `adts_to_raw` (six header bytes indexed
  behind the `len < 7` guard, the final `&frame[header_len..aac_frame_length]`), the Opus TOC readers
  (`packet[0]`, `packet[1]`) and the VP9 header readers (`frame[0..3]`), at the level of their index and
  slice operations.  (The error paths of `adts_to_raw` build hex dumps and messages; they are exercised
  under `catch_unwind` by the correspondence run, not modelled.)
-/
namespace Muxide.Checked
open Muxide

theorem byteAt_eq {f : Bytes} {i : Nat} (h : i < f.length) : byteAt f i = f[i].toNat := Muxide.byteAt_eq h

/-- `adts_to_raw`, reading each byte by a checked index -/
def adtsToRawC (f : Bytes) : M (Except AdtsErr Bytes) :=
  if f.length < 7 then .ok (.error .frameTooShort) else
  match getC f 0, getC f 1, getC f 2, getC f 3, getC f 4, getC f 5 with
  | .ok b0, .ok b1, .ok b2, .ok b3, .ok b4, .ok b5 =>
    let n0 := b0.toNat; let n1 := b1.toNat; let n2 := b2.toNat; let n3 := b3.toNat; let n4 := b4.toNat; let n5 := b5.toNat
    if ¬ (n0 = 0xFF ∧ n1 / 16 = 0xF) then .ok (.error .missingSyncword) else
    if n1 / 8 % 2 ≠ 0 then .ok (.error .invalidMpegVersion) else
    if n1 / 2 % 4 ≠ 0 then .ok (.error .invalidLayer) else
    let hl := if n1 % 2 = 1 then 7 else 9
    if f.length < hl then .ok (.error .invalidHeaderLength) else
    if n2 / 4 % 16 > 12 then .ok (.error .invalidSampleRateIndex) else
    let ch := (n2 % 2) * 4 + n3 / 64 % 4
    if ch = 0 ∨ ch > 7 then .ok (.error .invalidChannelConfig) else
    let fl := (n3 % 4) * 2 ^ 11 + n4 * 2 ^ 3 + n5 / 32
    if fl ≤ hl then .ok (.error .invalidFrameLength) else
    if fl > f.length then .ok (.error .invalidFrameLength) else
    match slice f hl fl with
    | .error e => .error e
    | .ok raw => .ok (.ok raw)
  | _, _, _, _, _, _ => .error ()

/-- `adts_to_raw` never indexes outside the frame on any byte string, and its final slice is a valid
    range whenever the guards passed; the result is the structural model's -/
theorem C12_checked_adts_to_raw (f : Bytes) : adtsToRawC f = .ok (adtsToRaw f) := by
  unfold adtsToRawC adtsToRaw
  refine guard_ok fun h7 => ?_
  rw [getC_ok (show 0 < f.length by omega), getC_ok (show 1 < f.length by omega), getC_ok (show 2 < f.length by omega),
      getC_ok (show 3 < f.length by omega), getC_ok (show 4 < f.length by omega), getC_ok (show 5 < f.length by omega)]
  simp only [adtsHeaderLen, adtsChannelConfig, adtsFrameLength,
    byteAt_eq (show 0 < f.length by omega), byteAt_eq (show 1 < f.length by omega), byteAt_eq (show 2 < f.length by omega),
    byteAt_eq (show 3 < f.length by omega), byteAt_eq (show 4 < f.length by omega), byteAt_eq (show 5 < f.length by omega)]
  -- the eight remaining guards are the model's; the last two make the slice range valid
  refine guard_ok fun _ => guard_ok fun _ => guard_ok fun _ => guard_ok fun _ => guard_ok fun _ => guard_ok fun _ =>
    guard_ok fun h8 => guard_ok fun h9 => ?_
  rw [slice_ok (by omega) (by omega)]

/-- `opus_frame_count`: `packet[0]` behind `is_empty`, `packet[1]` behind `len < 2` -/
def opusFrameCountC (p : Bytes) : M (Option (Nat × Bool)) :=
  if p = [] then .ok none else
  match getC p 0 with
  | .error e => .error e
  | .ok toc =>
    match toc.toNat % 4 with
    | 0 => .ok (some (1, false))
    | 1 => .ok (some (2, false))
    | 2 => .ok (some (2, true))
    | _ =>
      if p.length < 2 then .ok none else
      match getC p 1 with
      | .error e => .error e
      | .ok b =>
        let count := b.toNat % 64
        if count = 0 then .ok none else .ok (some (count, b.toNat ≥ 128))

theorem C12_checked_opus_frame_count (p : Bytes) : opusFrameCountC p = .ok (opusFrameCount p) := by
  unfold opusFrameCountC opusFrameCount
  match p with
  | [] => rfl
  | toc :: rest =>
    rw [if_neg (List.cons_ne_nil _ _), getC_ok (Nat.zero_lt_succ _)]
    dsimp only [List.getElem_cons_zero]
    generalize toc.toNat % 4 = code
    match code, rest with
    | 0, _ | 1, _ | 2, _ | _ + 3, [] => rfl
    | _ + 3, b :: r => exact guard_ok fun _ => guard_ok fun _ => rfl

/-- `opus_packet_samples`: `packet[0]` behind `is_empty`; `samples() * frame_count as u32` is at most
    2880 * 63 -/
def opusPacketSamplesC (p : Bytes) : M (Option Nat) :=
  if p = [] then .ok none else
  match getC p 0 with
  | .error e => .error e
  | .ok toc =>
    match opusFrameCountC p with
    | .error e => .error e
    | .ok none => .ok none
    | .ok (some (n, _)) =>
      if ¬ (1 ≤ n ∧ n ≤ 63) then .ok none else
      if opusTocSamples toc.toNat * n < 2 ^ 32 then          -- u32 multiplication with overflow checks
        (let s := opusTocSamples toc.toNat * n
         if s = 0 then .ok none else .ok (some s))
      else .error ()

theorem opusTocSamples_le (t : Nat) : opusTocSamples t ≤ 2880 := (Props.C12Parsers.opusTocSamples_bound t).2

theorem C12_checked_opus_packet_samples (p : Bytes) : opusPacketSamplesC p = .ok (opusPacketSamples p) := by
  unfold opusPacketSamplesC opusPacketSamples
  match p with
  | [] => rfl
  | toc :: r =>
    rw [if_neg (List.cons_ne_nil _ _), getC_ok (Nat.zero_lt_succ _), C12_checked_opus_frame_count]
    dsimp only [List.getElem_cons_zero]
    cases opusFrameCount (toc :: r) with
    | none => rfl
    | some nv =>
      refine guard_ok fun hn => ?_
      -- `samples() ≤ 2880` and `frame_count ≤ 63`: the `u32` product does not overflow
      rw [if_pos (Nat.lt_of_le_of_lt (Nat.mul_le_mul (opusTocSamples_le _) (Decidable.not_not.mp hn).2) (by decide))]
      exact guard_ok fun _ => rfl

/-- `parse_vp9_var_uint`: `data[offset]` behind `offset >= len`, `offset += 1`, `<< shift` with `shift < 32` -/
def vp9VarUintC (d : Bytes) : Nat → Nat → Nat → Nat → M (Option (Nat × Nat))
  | 0, _, _, _ => .error ()
  | fuel + 1, off, value, shift =>
    if off ≥ d.length then .ok none else
    match getC d off with
    | .error e => .error e
    | .ok bb =>
      match addU off 1 with
      | .error e => .error e
      | .ok off' =>
        if shift ≥ 32 then .error () else                    -- shift amount of a u32 `<<`
        let b := bb.toNat
        let value' := (value + (b % 128) * 2 ^ shift) % 2 ^ 32
        if b < 128 then .ok (some (value', off'))
        else if shift + 7 ≥ 32 then .ok none
        else vp9VarUintC d fuel off' value' (shift + 7)

theorem vp9VarUintC_eq (d : Bytes) (hd : SliceLen d) : ∀ (fuel off value shift : Nat),
    shift < 32 → 39 ≤ shift + 7 * fuel → vp9VarUintC d fuel off value shift = .ok (vp9VarUint d fuel off value shift) := by
  intro fuel
  induction fuel with
  | zero => intro off value shift h1 h2; omega
  | succ fuel ih =>
    intro off value shift h1 h2
    unfold vp9VarUintC vp9VarUint
    refine guard_ok fun hge => ?_
    have hlt : off < d.length := by omega
    unfold SliceLen at hd
    rw [getC_ok hlt, byteAt_eq hlt]
    dsimp only
    rw [addU_ok (show off + 1 < 2 ^ 64 by omega)]
    simp only [if_neg (show ¬ shift ≥ 32 by omega)]
    exact guard_ok fun _ => guard_ok fun _ => ih _ _ _ (by omega) (by omega)

/-- `parse_vp9_var_uint(data, offset)` as every caller starts it -/
theorem C12_checked_vp9_var_uint (d : Bytes) (hd : SliceLen d) (off : Nat) :
    vp9VarUintC d 6 off 0 0 = .ok (vp9VarUint d 6 off 0 0) :=
  vp9VarUintC_eq d hd 6 off 0 0 (by omega) (by omega)

/-- `is_vp9_keyframe`: `frame[0..3]` behind `len < 3`, `frame[3]` behind `len < 4` -/
def isVp9KeyframeC (f : Bytes) : M Vp9KeyRes :=
  if f.length < 3 then .ok .tooShort else
  match getC f 0, getC f 1, getC f 2 with
  | .ok a, .ok b, .ok c =>
    if ¬ (a.toNat = 0x49 ∧ b.toNat = 0x83 ∧ c.toNat = 0x42) then .ok .badMarker else
    if f.length < 4 then .ok .tooShort else
    match getC f 3 with
    | .error e => .error e
    | .ok h => if h.toNat / 32 % 2 ≠ 0 then .ok (.ok false) else .ok (.ok (h.toNat / 16 % 2 = 0))
  | _, _, _ => .error ()

theorem C12_checked_is_vp9_keyframe (f : Bytes) : isVp9KeyframeC f = .ok (isVp9Keyframe f) := by
  unfold isVp9KeyframeC isVp9Keyframe vp9Marker
  refine guard_ok fun h3 => ?_
  rw [getC_ok (show 0 < f.length by omega), getC_ok (show 1 < f.length by omega), getC_ok (show 2 < f.length by omega)]
  simp only [byteAt_eq (show 0 < f.length by omega), byteAt_eq (show 1 < f.length by omega),
    byteAt_eq (show 2 < f.length by omega), decide_eq_true_eq]
  refine guard_ok fun _ => guard_ok fun h4 => ?_
  rw [getC_ok (show 3 < f.length by omega), byteAt_eq (show 3 < f.length by omega)]
  exact guard_ok fun _ => rfl

end Muxide.Checked
