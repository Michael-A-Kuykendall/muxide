import Muxide.Generated.Nal
/-
  C07 (mechanical tie) — Muxide.Generated.Nal is produced by tools/rs2lean_nal.py from the Rust source of
  `extract_avc_config`, `extract_hevc_config`, `is_h264_keyframe`, `is_hevc_keyframe`, `hevc_nal_type` and
  `is_hevc_keyframe_nal_type` (src/codec/h264.rs, src/codec/h265.rs) on every check run.  Each theorem states
  that the translated function is the model's, for every byte string: which parameter sets are taken from the
  first key frame ("the first SPS / PPS / VPS of the stream", C07) and which access units count as key frames.
-/
namespace Muxide.Props.C07Generated
open Muxide Muxide.Generated.Nal

theorem and_31 (n : Nat) : n &&& 31 = n % 32 := Nat.and_two_pow_sub_one_eq_mod n 5
theorem and_63 (n : Nat) : n &&& 63 = n % 64 := Nat.and_two_pow_sub_one_eq_mod n 6

theorem h264_type (nal : Bytes) : ((nal.getD 0 0).toNat &&& 31) = h264NalType nal := by
  unfold h264NalType
  rw [and_31]
  cases nal <;> rfl

theorem C07_gen_hevc_nal_type (nal : Bytes) : H265.hevc_nal_type nal = hevcNalType nal := by
  unfold H265.hevc_nal_type hevcNalType
  cases nal with
  | nil => rfl
  | cons b r => simp [and_63]

theorem C07_gen_hevc_key_type (t : Nat) : H265.is_hevc_keyframe_nal_type t = isHevcKeyNalType t := by
  unfold H265.is_hevc_keyframe_nal_type isHevcKeyNalType
  apply decide_eq_decide.mpr
  omega

theorem avc_loop (ns : List Bytes) : ∀ s p, H264.extract_avc_config.loop ns s p = avcScan ns s p := by
  induction ns with
  | nil => intro s p; rfl
  | cons n ns ih =>
    intro s p
    -- one step of the translated loop is one step of the model's, read with the same unit type
    rw [H264.extract_avc_config.loop, avcScan, h264_type]
    simp only [ih]

/-- `extract_avc_config(data)` = the model's `extractAvc`: the first SPS and the first PPS of the access unit -/
theorem C07_gen_extract_avc (d : Bytes) : H264.extract_avc_config d = extractAvc d := by
  unfold H264.extract_avc_config extractAvc
  rw [avc_loop]
  split
  · rfl
  · rcases avcScan (nals d) none none with ⟨_ | _, _ | _⟩ <;> rfl

theorem hevc_loop (ns : List Bytes) : ∀ v s p, H265.extract_hevc_config.loop ns v s p = hevcScan ns v s p := by
  induction ns with
  | nil => intro v s p; rfl
  | cons n ns ih =>
    intro v s p
    rw [H265.extract_hevc_config.loop, hevcScan, C07_gen_hevc_nal_type]
    simp only [ih]

/-- `extract_hevc_config(data)` = the model's `extractHevc`: the first VPS, SPS and PPS of the access unit -/
theorem C07_gen_extract_hevc (d : Bytes) : H265.extract_hevc_config d = extractHevc d := by
  unfold H265.extract_hevc_config extractHevc
  rw [hevc_loop]
  split
  · rfl
  · rcases hevcScan (nals d) none none none with ⟨_ | _, _ | _, _ | _⟩ <;> rfl

theorem h264_key_loop (ns : List Bytes) :
    H264.is_h264_keyframe.loop ns = ns.any fun n => decide (n ≠ [] ∧ h264NalType n = 5) := by
  induction ns with
  | nil => rfl
  | cons n ns ih =>
    unfold H264.is_h264_keyframe.loop
    by_cases hn : n = []
    · simp [hn, ih]
    · simp only [hn, if_false, h264_type]
      by_cases hk : h264NalType n = 5 <;> simp [hn, hk, ih]

/-- `is_h264_keyframe(data)` = the model's `isH264Keyframe`: some non-empty unit is an IDR slice -/
theorem C07_gen_is_h264_keyframe (d : Bytes) : H264.is_h264_keyframe d = isH264Keyframe d := by
  unfold H264.is_h264_keyframe isH264Keyframe
  exact h264_key_loop (nals d)

theorem hevc_key_loop (ns : List Bytes) :
    H265.is_hevc_keyframe.loop ns = ns.any fun n => n ≠ [] && isHevcKeyNalType (hevcNalType n) := by
  induction ns with
  | nil => rfl
  | cons n ns ih =>
    unfold H265.is_hevc_keyframe.loop
    by_cases hn : n = []
    · simp [hn, ih]
    · simp only [hn, if_false, C07_gen_hevc_nal_type, C07_gen_hevc_key_type]
      by_cases hk : isHevcKeyNalType (hevcNalType n) = true <;> simp [hn, hk, ih]

/-- `is_hevc_keyframe(data)`: some non-empty unit has an IRAP type (16–21); empty input has none -/
theorem C07_gen_is_hevc_keyframe (d : Bytes) :
    H265.is_hevc_keyframe d = (decide (d ≠ []) && (nals d).any fun n => n ≠ [] && isHevcKeyNalType (hevcNalType n)) := by
  unfold H265.is_hevc_keyframe
  rw [hevc_key_loop]
  by_cases h : d = [] <;> simp [h]

end Muxide.Props.C07Generated
