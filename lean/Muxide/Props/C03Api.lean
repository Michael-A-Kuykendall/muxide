import Muxide.Props.C01Api
import Muxide.Props.C03History
/-
  C03 (API form) — the timing read back from the finished file, in terms of the calls of the public API:
  for every sequence of frame-writing API calls on a freshly built muxer, the decode time of the i-th video
  sample (from the sample-to-time table) is the tick value of the decode time submitted with the i-th call
  answered `ok`, minus that of the first, and its composition offset is ticks(pts) − ticks(dts); likewise for
  audio.  `ticks` is `F64.ticks`, the round-to-nearest of secs·90000 (`C03_api_ticks_*` in Props/C03.lean).
-/
namespace Muxide.Props.C03Api
open Muxide Muxide.Spec Muxide.Props.C05 Muxide.Props.C01E2E Muxide.Props.C03E2E
  Muxide.Props.C01Api Muxide.Props.C03History

theorem C03_api_history_video (c : Config) (cs : List Call) (hall : ∀ x ∈ cs, x.isWrite = true) (st : Stats) :
    let m0 := build c
    let m := (run m0 cs).1
    (m.finishStats deliverAll).2.2 = .stats st →
    MoovFits m.w m.width m.height m.md m.fast →
    let file := (m.finishStats deliverAll).2.1.chunks.flatten
    let acc := (apiAccepted m0 cs).filterMap (vrec c.codec)
    ∀ mv, parseMovie file = some mv → ∀ t, mv.tracks[0]? = some t →
      ∀ i p0 pi, acc[0]? = some p0 → acc[i]? = some pi →
        ((expandRuns t.stts).take i).sum = pi.2.1 - p0.2.1 ∧ p0.2.1 ≤ pi.2.1 ∧ ctsAt t i = (pi.1 : Int) - pi.2.1 := by
  dsimp only
  intro hst hfit mv hmv t ht i p0 pi h0 hi
  obtain ⟨hw, hout, hres, hacc⟩ := session c cs hall st hst
  rw [hw] at hfit
  rw [hout] at hmv
  rw [← (hacc none).1] at h0 hi
  exact C03_history_video c.codec _ (wcalls _ cs) _ _ _ _ hres hfit mv hmv t ht i p0 pi h0 hi

theorem C03_api_history_audio (c : Config) (cs : List Call) (hall : ∀ x ∈ cs, x.isWrite = true) (st : Stats)
    (tr : AudioTrack) :
    let m0 := build c
    let m := (run m0 cs).1
    m0.w.audio = some tr →
    (m.finishStats deliverAll).2.2 = .stats st →
    MoovFits m.w m.width m.height m.md m.fast →
    let file := (m.finishStats deliverAll).2.1.chunks.flatten
    let acc := (apiAccepted m0 cs).filterMap (arec (some tr))
    ∀ mv, parseMovie file = some mv → ∀ t, mv.tracks[1]? = some t →
      t.ctts = none ∧
      ∀ i p0 pi, acc[0]? = some p0 → acc[i]? = some pi →
        ((expandRuns t.stts).take i).sum = pi.1 - p0.1 ∧ p0.1 ≤ pi.1 := by
  dsimp only
  intro hau hst hfit mv hmv t ht
  obtain ⟨hw, hout, hres, hacc⟩ := session c cs hall st hst
  rw [hw] at hfit
  rw [hout] at hmv
  rw [hau] at hres hfit hmv
  rw [← (hacc (some tr)).2, hau]
  exact C03_history_audio c.codec tr (wcalls _ cs) _ _ _ _ hres hfit mv hmv t ht

end Muxide.Props.C03Api
