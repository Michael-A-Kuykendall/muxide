import Muxide.Lemmas.Tables
import Muxide.Lemmas.Layout
/-
  C02 — Box structure: everything the library emits is a sequence of boxes whose declared sizes
  exactly tile their parent, recursively; the progressive file is ftyp, one moov, at most one
  mdat; the moov has the full mandatory hierarchy with consistent counts; init and media segments
  of the fragmented writer have their prescribed shape.
  Helper lemmas live in Muxide/Lemmas/{Box,Mp4Shape,Tables}.lean.
-/
namespace Muxide.Props.C02
open Muxide Muxide.Spec

/-! ## Tiling: the generic round trip -/

/-- Serialising any conforming box (4-byte types, sizes < 2^32, leaves childless, containers
    with the schema's prefix length, recursively) followed by arbitrary bytes parses back to
    exactly that box and leaves exactly those bytes. -/
theorem C02_tiling_box (sc : Schema) (b : Box) (rest : Bytes) (fuel : Nat)
    (h : Conforms sc b) (hf : depth b < fuel) :
    parseBox sc fuel (Box.ser b ++ rest) = some (b, rest) :=
  parseBox_ser b rest fuel h hf

/-- A conforming sequence of boxes parses back to exactly that sequence, consuming all bytes. -/
theorem C02_tiling (sc : Schema) (bs : List Box) (fuel : Nat)
    (h : ConformsL sc bs) (hf : depthL bs < fuel) :
    parseBoxes sc fuel (Box.sers bs) = some bs :=
  parseBoxes_sers bs fuel h hf

/-- The declared size of a conforming box is its byte length; the size of a box is its header,
    its fixed prefix and the sizes of its children — nothing else. -/
theorem C02_size_exact (sc : Schema) (b : Box) (h : Conforms sc b) :
    (Box.ser b).length = Box.size b ∧
    Box.size b = 8 + b.pre.length + Box.sizes b.kids ∧
    (Box.sers b.kids).length = Box.sizes b.kids := by
  refine ⟨ser_len b h, ?_, ?_⟩
  · cases b; rfl
  · cases b with
    | mk t p ks => exact sers_len ks h.2.2.2

/-- The file-level reader (`isoSchema`, fuel computed from the file length) accepts every
    conforming top-level sequence: the fuel is always sufficient. -/
theorem C02_tiling_file (bs : List Box) (h : ConformsL isoSchema bs) :
    parseFileTree (Box.sers bs) = some bs :=
  parseFileTree_sers bs h

/-- non-vacuity: a two-level tree conforms to `isoSchema` and is read back by the file reader -/
example : parseFileTree (Box.sers [bFtyp, bDinf]) = some [bFtyp, bDinf] := by
  apply C02_tiling_file
  exact ⟨conforms_of_shape _ (isoLeaf _) (by decide), conforms_of_shape _ shape_bDinf (by decide), trivial⟩

/-! ## Every box of the moov conforms to `isoSchema` -/

theorem C02_moov_conforms (w h : Nat) (vt : Tables) (audio : Option (AudioTrack × Tables))
    (vc : VideoConfig) (md : Option Metadata)
    (hsz : Box.size (bMoov w h vt audio vc md) < 2^32) :
    Conforms isoSchema (bMoov w h vt audio vc md) :=
  conforms_of_shape _ (shape_bMoov w h vt audio vc md) hsz

theorem C02_ftyp_conforms : Conforms isoSchema bFtyp :=
  conforms_of_shape _ (isoLeaf _) (by decide)

theorem C02_mdat_conforms (payload : Bytes) (h : 8 + payload.length ≤ u32Max) :
    Conforms isoSchema (mdatBox payload) :=
  conforms_of_shape _ (shape_mdat payload) (by simp [mdatBox, Box.size, Box.sizes, u32Max] at *; omega)

/-! ## Entry counts of the sample tables -/

theorem C02_counts (samples : List Sample) (offsets : List Nat) (spc : Nat) (fallback : Option Nat) :
    let t := Tables.ofSamples samples offsets spc fallback
    t.sizes.length = samples.length ∧
    t.durations.length = samples.length ∧
    t.ctsOffsets.length = samples.length ∧
    t.keyframes.Pairwise (· < ·) ∧
    (∀ k ∈ t.keyframes, 1 ≤ k ∧ k ≤ samples.length) ∧
    t.chunkOffsets = offsets ∧ t.samplesPerChunk = spc := by
  simp only [Tables.ofSamples, List.length_map, durationsOf_length, true_and, and_true]
  exact ⟨keyframesOf_pairwise samples, keyframesOf_range samples⟩

/-- the run-length tables (stts, ctts) expand back to the per-sample list: the entry counts sum
    to the sample count, every run is non-empty -/
theorem C02_rle {α} [DecidableEq α] (xs : List α) :
    ((rle xs).map (·.1)).sum = xs.length ∧
    (rle xs).flatMap (fun (c, x) => List.replicate c x) = xs ∧
    (∀ e ∈ rle xs, 0 < e.1) :=
  ⟨counts_rle xs, expandRuns_rle xs, rle_pos xs⟩

/-- with audio the tracks are written one sample per chunk: the interleave schedule yields
    exactly one chunk offset per sample of each track -/
theorem C02_counts_chunks (step : Ent → Nat) (vs aus : List Sample) (cur : Nat) :
    (assignOffsets step (schedule vs aus) cur).1.length = vs.length ∧
    (assignOffsets step (schedule vs aus) cur).2.length = aus.length :=
  schedule_offsets_length step vs aus cur


/-! ## Top-level layout of a finished progressive file

`Writer.finalize` against a fault-free sink, outcome `ok`: the concatenated chunks are the
serialisation of `ftyp`, exactly one `moov` and at most one `mdat` (`mdatBox payload`, the payload
being the sample data in storage order, with `8 + payload.length ≤ u32::MAX`). -/

/-- standard layout, video only: `ftyp moov` when no sample was written, else `ftyp mdat moov`
    (one chunk holding all samples) -/
theorem C02_progressive_layout_standard_video (w : Writer) (width height : Nat) (md : Option Metadata)
    (ha : w.audio = none) (hok : (w.finalize width height md false).2.res = .ok) :
    let vs := w.vsRev.reverse
    let vc := w.vConfig.getD (.avc defaultAvc)
    (vs = [] → (w.finalize width height md false).2.chunks.flatten =
        Box.sers [bFtyp, bMoov width height (Tables.ofSamples [] [] 0 w.vLastDelta) none vc md]) ∧
    (vs ≠ [] → (w.finalize width height md false).2.chunks.flatten =
        Box.sers [bFtyp, mdatBox (vs.flatMap (·.data)),
          bMoov width height (Tables.ofSamples vs [ftypLen + 8] vs.length w.vLastDelta) none vc md] ∧
      8 + (vs.flatMap (·.data)).length ≤ u32Max) := by
  obtain ⟨hm, hc⟩ := finalize_flatten hok (fun h => by cases h)
  rw [hc, if_neg Bool.false_ne_true]
  simp only [C08.moovOf, C08.offsetsAt, C08.mediaChunks, ha, ← List.flatMap_def] at hm ⊢
  by_cases hv : w.vsRev.reverse = []
  · have : w.vsRev = [] := by simpa using hv
    simp [this]
  · refine ⟨fun h => absurd h hv, fun _ => ⟨?_, hm⟩⟩
    rw [if_neg (fun h => hv (by simp [h.2])), if_pos hv, if_pos hv]

/-- standard layout with an audio track: `ftyp mdat moov`, the mdat payload is the interleave
    schedule's sample data; each track has one chunk offset per sample -/
theorem C02_progressive_layout_standard_audio (w : Writer) (width height : Nat) (md : Option Metadata)
    (tr : AudioTrack) (ha : w.audio = some tr) (hok : (w.finalize width height md false).2.res = .ok) :
    let vs := w.vsRev.reverse
    let aus := w.asRev.reverse
    let vc := w.vConfig.getD (.avc defaultAvc)
    let payload := (schedule vs aus).flatMap (entData vs aus)
    let offs := assignOffsets (entSize vs aus) (schedule vs aus) (ftypLen + 8)
    (w.finalize width height md false).2.chunks.flatten =
      Box.sers [bFtyp, mdatBox payload,
        bMoov width height (Tables.ofSamples vs offs.1 1 w.vLastDelta)
          (some (tr, Tables.ofSamples aus offs.2 1 w.aLastDelta)) vc md] ∧
    8 + payload.length ≤ u32Max ∧ offs.1.length = vs.length ∧ offs.2.length = aus.length := by
  intro vs aus vc payload offs
  obtain ⟨hm, hc⟩ := finalize_flatten hok (fun h => by cases h)
  rw [hc, if_neg Bool.false_ne_true]
  simp only [C08.moovOf, C08.offsetsAt, C08.mediaChunks, ha, ← List.flatMap_def, reduceCtorEq, false_and,
    if_false] at hm ⊢
  exact ⟨rfl, hm, (schedule_offsets_length _ vs aus _).1, (schedule_offsets_length _ vs aus _).2⟩

/-- fast-start layout with an audio track: `ftyp moov mdat` -/
theorem C02_progressive_layout_fast_audio (w : Writer) (width height : Nat) (md : Option Metadata)
    (tr : AudioTrack) (ha : w.audio = some tr) (hok : (w.finalize width height md true).2.res = .ok) :
    let vs := w.vsRev.reverse
    let aus := w.asRev.reverse
    let vc := w.vConfig.getD (.avc defaultAvc)
    let payload := (schedule vs aus).flatMap (entData vs aus)
    ∃ vo ao, vo.length = vs.length ∧ ao.length = aus.length ∧
    (w.finalize width height md true).2.chunks.flatten =
      Box.sers [bFtyp,
        bMoov width height (Tables.ofSamples vs vo 1 w.vLastDelta)
          (some (tr, Tables.ofSamples aus ao 1 w.aLastDelta)) vc md,
        mdatBox payload] ∧
    8 + payload.length ≤ u32Max := by
  intro vs aus vc payload
  obtain ⟨hm, hc⟩ := finalize_flatten hok (fun _ h => by rw [ha] at h; cases h)
  rw [hc, if_pos rfl]
  simp only [C08.moovOf, C08.offsetsAt, C08.mediaChunks, ha, ← List.flatMap_def] at hm ⊢
  exact ⟨_, _, (schedule_offsets_length _ vs aus _).1, (schedule_offsets_length _ vs aus _).2, rfl, hm⟩

/-- fast-start layout, video only: `ftyp moov mdat` (the mdat is present, with an empty payload,
    even when no sample was written). `hinv` is the writer invariant `AudioInv` (no queued audio
    without an audio track), which every reachable writer satisfies — see `C02_audio_invariant`. -/
theorem C02_progressive_layout_fast_video (w : Writer) (width height : Nat) (md : Option Metadata)
    (ha : w.audio = none) (hinv : AudioInv w) (hok : (w.finalize width height md true).2.res = .ok) :
    let vs := w.vsRev.reverse
    let vc := w.vConfig.getD (.avc defaultAvc)
    let payload := vs.flatMap (·.data)
    ∃ offs spc, ((vs = [] ∧ offs = [] ∧ spc = 0) ∨ (vs ≠ [] ∧ offs.length = 1 ∧ spc = vs.length)) ∧
    (w.finalize width height md true).2.chunks.flatten =
      Box.sers [bFtyp, bMoov width height (Tables.ofSamples vs offs spc w.vLastDelta) none vc md,
        mdatBox payload] ∧
    8 + payload.length ≤ u32Max := by
  intro vs vc payload
  obtain ⟨hm, hc⟩ := finalize_flatten hok (fun _ => hinv)
  rw [hc, if_pos rfl]
  simp only [C08.moovOf, C08.offsetsAt, C08.mediaChunks, ha, ← List.flatMap_def] at hm ⊢
  refine ⟨_, _, ?_, rfl, hm⟩
  by_cases hv : w.vsRev.reverse = []
  · exact Or.inl ⟨hv, if_neg (fun h => h hv), if_neg (fun h => h hv)⟩
  · exact Or.inr ⟨hv, by rw [if_pos hv]; rfl, if_pos hv⟩

/-- `AudioInv` holds for a fresh writer and is preserved by every writer operation -/
theorem C02_audio_invariant :
    (∀ c a, AudioInv { codec := c, audio := a }) ∧
    (∀ w pts dts d k, AudioInv w → AudioInv (Writer.writeVideo w pts dts d k).1) ∧
    (∀ w pts d, AudioInv w → AudioInv (Writer.writeAudio w pts d).1) ∧
    (∀ w a b md f, AudioInv w → AudioInv (Writer.finalize w a b md f).1) :=
  ⟨audioInv_new, audioInv_writeVideo, audioInv_writeAudio, audioInv_finalize⟩

/-- a finished file is read back by the file reader as exactly its top-level boxes, whenever the
    moov fits a 32-bit size (the writer does not check this; cf. C16) -/
theorem C02_progressive_parses (moov : Box) (payload : Bytes) (hm : Shape isoSchema moov)
    (hsz : Box.size moov < 2^32) (hp : 8 + payload.length ≤ u32Max) :
    parseFileTree (Box.sers [bFtyp, moov, mdatBox payload]) = some [bFtyp, moov, mdatBox payload] ∧
    parseFileTree (Box.sers [bFtyp, mdatBox payload, moov]) = some [bFtyp, mdatBox payload, moov] ∧
    parseFileTree (Box.sers [bFtyp, moov]) = some [bFtyp, moov] := by
  have c1 := C02_ftyp_conforms
  have c2 := conforms_of_shape _ hm hsz
  have c3 := C02_mdat_conforms payload hp
  exact ⟨C02_tiling_file _ ⟨c1, c2, c3, trivial⟩, C02_tiling_file _ ⟨c1, c3, c2, trivial⟩,
    C02_tiling_file _ ⟨c1, c2, trivial⟩⟩

/-! ## Fragmented writer -/

theorem C02_init_layout (c : FragConfig) : buildInit c = Box.sers [fFtyp, fMoov c] := by
  simp [buildInit, Box.sers]

theorem C02_init_conforms (c : FragConfig) (hsz : Box.size (fMoov c) < 2^32) :
    Conforms isoSchema fFtyp ∧ Conforms isoSchema (fMoov c) :=
  ⟨conforms_of_shape _ (isoLeaf _) (by decide), conforms_of_shape _ (shape_fMoov c) hsz⟩

/-- the moof's byte size does not depend on the data-offset value written into its trun -/
theorem size_moof_indep (s : List FSample) (q b off off' : Nat) :
    (fMoof s q b off).ser.length = (fMoof s q b off').ser.length := by
  rw [fMoof_ser_length, fMoof_ser_length]

/-- a media segment is exactly one moof followed by one mdat holding the sample data; the trun's
    data offset is the moof's own size (mod 2^32) plus the mdat header -/
theorem C02_segment_layout (samples : List FSample) (seq base : Nat) :
    let off := (fMoof samples seq base 0).ser.length % 2^32 + 8
    buildSegment samples seq base =
      Box.sers [fMoof samples seq base off, mdatBox (samples.flatMap (·.data))] ∧
    off = (fMoof samples seq base off).ser.length % 2^32 + 8 := by
  intro off
  exact ⟨buildSegment_eq samples seq base, by rw [size_moof_indep samples seq base off 0]⟩

theorem C02_segment_conforms (samples : List FSample) (seq base off : Nat)
    (hsz : Box.size (fMoof samples seq base off) < 2^32)
    (hp : 8 + (samples.flatMap (·.data)).length ≤ u32Max) :
    ConformsL isoSchema [fMoof samples seq base off, mdatBox (samples.flatMap (·.data))] :=
  ⟨conforms_of_shape _ (shape_fMoof samples seq base off) hsz, C02_mdat_conforms _ hp, trivial⟩


/-! ## Shape of the moov: type skeletons

`Box.skel` forgets payload bytes and keeps the tree of box types; `S "abcd" kids` is a skeleton
node with an ASCII type. -/

def videoEntrySkel : VideoConfig → Skel
  | .avc _ => S "avc1" [S "avcC"]
  | .hevc _ => S "hvc1" [S "hvcC"]
  | .av1 _ => S "av01" [S "av1C"]
  | .vp9 _ => S "vp09" [S "vpcC"]

def audioEntrySkel (a : AudioTrack) : Skel :=
  match a.codec with
  | .opus => S "Opus" [S "dOps"]
  | _ => S "mp4a" [S "esds"]

/-- a track: header, media (header, handler, media information (media header, data reference,
    sample table)) -/
def trakSkel (mediaHeader : String) (stbl : List Skel) : Skel :=
  S "trak" [S "tkhd", S "mdia" [S "mdhd", S "hdlr",
    S "minf" [S mediaHeader, S "dinf" [S "dref" [S "url "]], S "stbl" stbl]]]

theorem skel_bStsc (a b : Nat) : (bStsc a b).skel = S "stsc" := by
  unfold bStsc; split <;> rfl

theorem C02_video_trak_shape (w h : Nat) (t : Tables) (vc : VideoConfig) (lang : Option (List Nat)) :
    (bVideoTrak w h t vc lang).skel =
      trakSkel "vmhd" ([S "stsd" [videoEntrySkel vc], S "stts"] ++
        (if t.hasBframes then [S "ctts"] else []) ++ [S "stsc", S "stsz", S "stco"] ++
        (if t.keyframes ≠ [] then [S "stss"] else [])) := by
  have e : (bVideoEntry w h vc).skel = videoEntrySkel vc := by cases vc <;> rfl
  simp only [bVideoTrak, bVideoStbl, Box.node, Box.skel, Box.skels, skels_append, trakSkel, S, e,
    skel_bStsc, bStsd]
  split <;> split <;> rfl

theorem C02_audio_trak_shape (a : AudioTrack) (t : Tables) (lang : Option (List Nat)) :
    (bAudioTrak a t lang).skel =
      trakSkel "smhd" [S "stsd" [audioEntrySkel a], S "stts", S "stsc", S "stsz", S "stco"] := by
  have e : (bAudioEntry a).skel = audioEntrySkel a := by
    unfold bAudioEntry audioEntrySkel
    cases a.codec <;> rfl
  simp only [bAudioTrak, bAudioStbl, Box.node, Box.skel, Box.skels, trakSkel, S, e, skel_bStsc, bStsd]
  rfl

theorem C02_udta_shape (m : Metadata) (u : Box) (hu : bUdta m = some u) :
    u.skel = S "udta" [S "meta" [S "hdlr", S "ilst"
      ((if m.title.isSome then [Skel.mk namType [S "data"]] else []) ++
       (if m.ctime.isSome then [Skel.mk dayType [S "data"]] else []))]] := by
  rw [bUdta_eq_some hu]
  cases m.title <;> cases m.ctime <;> rfl

/-- the children of the moov: movie header, the video track, the audio track iff one is
    configured, user data iff there is a title or a creation time -/
theorem C02_moov_shape (w h : Nat) (vt : Tables) (audio : Option (AudioTrack × Tables)) (vc : VideoConfig)
    (md : Option Metadata) :
    (bMoov w h vt audio vc md).skel =
      S "moov" ([S "mvhd", (bVideoTrak w h vt vc (md.bind (·.language))).skel] ++
        (match audio with
         | some (a, at_) => [(bAudioTrak a at_ (md.bind (·.language))).skel]
         | none => []) ++
        (match md.bind bUdta with
         | some u => [u.skel]
         | none => [])) ∧
    (bMoov w h vt audio vc md).kids.map Box.typ =
      [ascii "mvhd", ascii "trak"] ++ (if audio.isSome then [ascii "trak"] else []) ++
        (if (md.bind bUdta).isSome then [ascii "udta"] else []) := by
  constructor
  · simp only [bMoov, Box.node, Box.skel, skels_append, S]
    cases audio <;> cases md.bind bUdta <;> rfl
  · simp only [bMoov, Box.node, Box.kids]
    rw [List.map_append, List.map_append]
    congr 1
    · congr 1
      rcases audio with _ | ⟨a, t⟩ <;> rfl
    · cases hb : md.bind bUdta with
      | none => rfl
      | some u => simp [bind_bUdta_typ md u hb]

/-! ### fragmented: shapes -/
def fragEntrySkel (c : FragConfig) : Skel :=
  if c.av1.isSome then S "av01" [S "av1C"]
  else if c.vp9.isSome then S "vp09" [S "vpcC"]
  else if c.vps.isSome then S "hvc1" [S "hvcC"]
  else S "avc1" [S "avcC"]

/-- init segment: movie header, a movie-extends box with the track's `trex`, and one full track -/
theorem C02_init_shape (c : FragConfig) :
    (fMoov c).skel = S "moov" [S "mvhd", S "mvex" [S "trex"],
      trakSkel "vmhd" [S "stsd" [fragEntrySkel c], S "stts", S "stsc", S "stsz", S "stco"]] ∧
    (fMoov c).kids.map Box.typ = [ascii "mvhd", ascii "mvex", ascii "trak"] := by
  have e : (fSampleEntry c).skel = fragEntrySkel c := by
    simp only [fSampleEntry, fragEntrySkel, apply_ite Box.skel]
    rfl
  refine ⟨?_, rfl⟩
  simp only [fMoov, fTrak, fStbl, Box.node, Box.skel, Box.skels, trakSkel, S, e]
  rfl

/-- media segment: the moof is a fragment header and one track fragment (header, decode time,
    run) -/
theorem C02_moof_shape (s : List FSample) (q b off : Nat) :
    (fMoof s q b off).skel = S "moof" [S "mfhd", S "traf" [S "tfhd", S "tfdt", S "trun"]] ∧
    (fMoof s q b off).kids.map Box.typ = [ascii "mfhd", ascii "traf"] :=
  ⟨rfl, rfl⟩


/-! ## Corollaries: what the independent reader sees -/

/-- ftyp first, exactly one moov, at most one mdat — for each of the three top-level sequences a
    successful finalize can produce (see `C02_progressive_layout_*`) -/
theorem C02_top_level_counts (w h : Nat) (vt : Tables) (audio : Option (AudioTrack × Tables))
    (vc : VideoConfig) (md : Option Metadata) (payload : Bytes) :
    let moov := bMoov w h vt audio vc md
    ∀ top, top = [bFtyp, moov, mdatBox payload] ∨ top = [bFtyp, mdatBox payload, moov] ∨ top = [bFtyp, moov] →
      (top.head?.map Box.typ = some (tag "ftyp")) ∧
      (children "moov" top).length = 1 ∧ (children "mdat" top).length ≤ 1 ∧
      (children "ftyp" top).length = 1 ∧ top.length ≤ 3 := by
  intro moov top ht
  have t1 : bFtyp.typ = ascii "ftyp" := rfl
  have t2 : moov.typ = ascii "moov" := rfl
  have t3 : (mdatBox payload).typ = ascii "mdat" := rfl
  have d : ascii "ftyp" ≠ ascii "moov" ∧ ascii "ftyp" ≠ ascii "mdat" ∧ ascii "moov" ≠ ascii "mdat" := by decide
  rcases ht with rfl | rfl | rfl <;>
    simp [children, tag, List.filter, t1, t2, t3, d.1, d.2.1, d.2.2, d.1.symm, d.2.1.symm, d.2.2.symm]

/-- the init segment is read back as exactly `[ftyp, moov]` -/
theorem C02_init_parses (c : FragConfig) (hsz : Box.size (fMoov c) < 2^32) :
    parseFileTree (buildInit c) = some [fFtyp, fMoov c] := by
  rw [C02_init_layout]
  exact C02_tiling_file _ ⟨(C02_init_conforms c hsz).1, (C02_init_conforms c hsz).2, trivial⟩

/-- a media segment is read back as exactly one moof followed by one mdat -/
theorem C02_segment_parses (samples : List FSample) (seq base : Nat)
    (hsz : Box.size (fMoof samples seq base 0) < 2^32)
    (hp : 8 + (samples.flatMap (·.data)).length ≤ u32Max) :
    parseFileTree (buildSegment samples seq base) =
      some [fMoof samples seq base ((fMoof samples seq base 0).ser.length % 2^32 + 8),
        mdatBox (samples.flatMap (·.data))] := by
  rw [(C02_segment_layout samples seq base).1]
  apply C02_tiling_file
  apply C02_segment_conforms _ _ _ _ _ hp
  rw [fMoof_size] at hsz ⊢
  exact hsz

/-! ## Non-vacuity -/

/-- a concrete one-sample video-only writer: both layouts finish `ok`, and the moov fits 32 bits -/
def exWriter : Writer :=
  { codec := .h264, vsRev := [⟨0, 0, [0, 0, 0, 1, 0x65], true, none⟩], vPrev := some 0,
    vConfig := some (.avc ⟨[0x67, 0x42, 0, 0x1e], [0x68, 0xce]⟩) }

example : (exWriter.finalize 16 16 none false).2.res = .ok := by decide +kernel
example : (exWriter.finalize 16 16 none true).2.res = .ok :=
  finalize_ok_of_fits true rfl (fun _ => rfl) (by decide +kernel) (by decide +kernel) (by decide) (by decide)
    (by decide +kernel) (by decide +kernel)
example : AudioInv exWriter := by intro _; rfl
example : Box.size (bMoov 16 16 (Tables.ofSamples exWriter.vsRev.reverse [32] 1 none) none
    (.avc ⟨[0x67, 0x42, 0, 0x1e], [0x68, 0xce]⟩) none) < 2^32 := by decide +kernel
example : Box.size (fMoof [⟨0, 0, [1, 2, 3], true⟩] 1 0 0) < 2^32 := by decide +kernel


/-- a concrete writer with an AAC track and one sample in each queue -/
def exWriterA : Writer :=
  { exWriter with audio := some ⟨48000, 2, .aac .lc⟩, asRev := [⟨0, 0, [0x21, 0x10], false, none⟩],
                  aPrev := some 0 }

example : (exWriterA.finalize 16 16 none false).2.res = .ok := by decide +kernel
example : (exWriterA.finalize 16 16 none true).2.res = .ok :=
  finalize_ok_of_fits true rfl nofun (by decide +kernel) (by decide +kernel) (by decide) (by decide)
    (by decide +kernel) (by decide +kernel)

end Muxide.Props.C02
