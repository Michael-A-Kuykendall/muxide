import Muxide.Props.C19Generated
/-
  C19 (mechanical tie, second batch) — the sample tables (stsz, stco, stss, and the run-length coded stts and
  ctts), the codec configuration records (avcC, av1C, vpcC, hvcC) with their sample entries (avc1, av01, vp09,
  hvc1), and five more builders of the fragmented writer (tkhd, avcC, avc1, hvcC, hvc1), translated from the
  Rust source by tools/rs2lean.py on every check run; each theorem states that the translated function is, for
  all arguments, the serialisation of the hand-written model's box.
-/
namespace Muxide.Props.C19Generated
open Muxide Muxide.Box Muxide.Generated Muxide.Generated.Mp4

/-! ### the plain tables -/

theorem flatMap_eta (xs : List Nat) : xs.flatMap (fun v => u32be v) = xs.flatMap u32be := rfl

theorem C19_gen_stsz (sizes : List Nat) : build_stsz_box sizes = (bStsz sizes).ser := by
  rw [bStsz, ser_leaf]
  simp only [build_stsz_box, u32be_mod]
  rfl

theorem C19_gen_stco (offs : List Nat) : build_stco_box offs = (bStco offs).ser := by
  rw [bStco, ser_leaf]
  simp only [build_stco_box, u32be_mod]
  rfl

theorem C19_gen_stss (keys : List Nat) : build_stss_box keys = (bStss keys).ser := by
  rw [bStss, ser_leaf]
  simp only [build_stss_box, u32be_mod]
  rfl

/-! ### run-length coding: the Rust loop (extend the last entry or push a new one) is the model's `rle` -/

theorem dropLast_reverse_cons {α} (a : α) (l : List α) : (a :: l).reverse.dropLast = l.reverse := by
  simp

theorem rleSnoc_aux {α} [DecidableEq α] (xs : List α) : ∀ acc : List (Nat × α),
    xs.foldl (fun entries x => match entries.getLast? with
      | some last => if last.2 = x then entries.dropLast ++ [(last.1 + 1, last.2)] else entries ++ [(1, x)]
      | none => entries ++ [(1, x)]) acc.reverse = rleAux xs acc := by
  induction xs with
  | nil => intro acc; rfl
  | cons x xs ih =>
    rintro (_ | ⟨⟨c, y⟩, acc⟩)
    · exact ih [(1, x)]
    · -- the last entry of `acc.reverse` is the head of `acc`
      simp only [List.foldl_cons, List.getLast?_reverse, List.head?_cons, dropLast_reverse_cons, rleAux]
      split
      · simpa using ih ((c + 1, y) :: acc)
      · simpa using ih ((1, x) :: (c, y) :: acc)

theorem rleSnoc_eq_rle {α} [DecidableEq α] (xs : List α) : rleSnoc xs = rle xs := by
  unfold rleSnoc rle
  exact rleSnoc_aux xs []

theorem C19_gen_stts (ds : List Nat) : build_stts_box ds = (bStts ds).ser := by
  rw [bStts, ser_leaf]
  simp only [build_stts_box, u32be_mod, rleSnoc_eq_rle]
  rfl

theorem C19_gen_ctts (os : List Int) : build_ctts_box os = (bCtts os).ser := by
  rw [bCtts, ser_leaf]
  simp only [build_ctts_box, u32be_mod, rleSnoc_eq_rle]
  rfl

/-! ### codec configuration records -/

theorem u16be_mod (n : Nat) : u16be (n % 2 ^ 16) = u16be n := (Muxide.u16be_mod n).symm

theorem u8'_toNat (b : UInt8) : u8' b.toNat = b := u8_of_toNat b

theorem u8_toNat (b : UInt8) : u8 b.toNat = b := u8_of_toNat b

/-- `build_avcc_box(avc_config)`: profile, compatibility and level copied from the SPS when it has four
    bytes, the Baseline defaults otherwise -/
theorem C19_gen_avcC (c : AvcConfig) : build_avcc_box c.sps c.pps = (bAvcC c).ser := by
  unfold bAvcC
  by_cases h : c.sps.length ≥ 4
  · simp only [h, if_true]
    rw [ser_leaf]
    simp only [build_avcc_box, h, if_true, u8'_toNat, u16be_mod]
    rfl
  · simp only [h, if_false]
    rw [ser_leaf]
    simp only [build_avcc_box, h, if_false, u16be_mod]
    rfl

theorem av1c_byte1_bits : ∀ p, p < 8 → ∀ l, l < 32 → ((p * 2 ^ 5 % 2 ^ 8) ||| l) = p * 32 + l := by decide

theorem av1c_byte2_bits : ∀ t, t < 2 → ∀ c, c < 4 → ∀ hb tb mono sx sy : Bool,
    ((((((((t * 2 ^ 7 % 2 ^ 8) ||| (if hb then 64 else 0)) ||| (if tb then 32 else 0)) ||| (if mono then 16 else 0)) |||
      (if sx then 8 else 0)) ||| (if sy then 4 else 0)) ||| c)) =
    t * 128 + (if hb then 0x40 else 0) + (if tb then 0x20 else 0) + (if mono then 0x10 else 0) +
      (if sx then 0x08 else 0) + (if sy then 0x04 else 0) + c := by decide

theorem and_7 (n : Nat) : n &&& 7 = n % 8 := Nat.and_two_pow_sub_one_eq_mod n 3
theorem and_31 (n : Nat) : n &&& 31 = n % 32 := Nat.and_two_pow_sub_one_eq_mod n 5
theorem and_3 (n : Nat) : n &&& 3 = n % 4 := Nat.and_two_pow_sub_one_eq_mod n 2
theorem and_15 (n : Nat) : n &&& 15 = n % 16 := Nat.and_two_pow_sub_one_eq_mod n 4

/-- `build_av1c_box(av1_config)`: marker/version, profile and level, the flag byte, no presentation delay,
    then the sequence header OBU -/
theorem C19_gen_av1C (c : Av1Config) :
    build_av1c_box c.sequenceHeader c.seqProfile c.seqLevelIdx c.seqTier c.highBitdepth c.twelveBit c.monochrome
      c.subX c.subY c.csp = (bAv1C c).ser := by
  rw [bAv1C, ser_leaf]
  have h1 := av1c_byte1_bits (c.seqProfile % 8) (by omega) (c.seqLevelIdx % 32) (by omega)
  have h2 := av1c_byte2_bits (c.seqTier % 2) (by omega) (c.csp % 4) (by omega) c.highBitdepth c.twelveBit c.monochrome c.subX c.subY
  simp only [build_av1c_box, and_7, and_31, Nat.and_one_is_mod, and_3, h1, h2]
  rfl

theorem vpcc_bits : ∀ b, b < 16 → ∀ f, f < 2 → (((b * 2 ^ 4 % 2 ^ 8) ||| 2) ||| f) = b * 16 + 2 + f := by decide

/-- `build_vpcc_box(vp9_config)` -/
theorem C19_gen_vpcC (c : Vp9Config) :
    build_vpcc_box c.profile c.bitDepth c.colorSpace c.transfer c.matrix c.level c.fullRange = (bVpcC c).ser := by
  rw [bVpcC, ser_leaf]
  have h := vpcc_bits (c.bitDepth % 16) (by omega) (c.fullRange % 2) (by omega)
  simp only [build_vpcc_box, and_15, Nat.and_one_is_mod, h]
  rfl

/-! ### the visual sample entries -/

theorem bAvcC_len (c : AvcConfig) : (bAvcC c).ser.length = (bAvcC c).size := by
  unfold bAvcC
  split <;> exact leaf_ser_length _ _ rfl

theorem C19_gen_avc1 (w h : Nat) (c : AvcConfig) :
    build_avc1_box w h c.sps c.pps = (bVideoEntry w h (.avc c)).ser := by
  rw [bVideoEntry, node1_ser _ _ _ (bAvcC_len c)]
  simp only [build_avc1_box, C19_gen_avcC, u16be_mod]
  rfl

theorem C19_gen_av01 (w h : Nat) (c : Av1Config) :
    build_av01_box w h c.sequenceHeader c.seqProfile c.seqLevelIdx c.seqTier c.highBitdepth c.twelveBit c.monochrome
      c.subX c.subY c.csp = (bVideoEntry w h (.av1 c)).ser := by
  rw [bVideoEntry, node1_ser _ _ (bAv1C c) (leaf_ser_length _ _ rfl)]
  simp only [build_av01_box, C19_gen_av1C, u16be_mod]
  rfl

theorem C19_gen_vp09 (w h : Nat) (c : Vp9Config) :
    build_vp09_box w h c.profile c.bitDepth c.colorSpace c.transfer c.matrix c.level c.fullRange =
      (bVideoEntry w h (.vp9 c)).ser := by
  rw [bVideoEntry, node1_ser _ _ (bVpcC c) (leaf_ser_length _ _ rfl)]
  simp only [build_vp09_box, C19_gen_vpcC, u16be_mod]
  rfl

/-! ### HEVC: the SPS readers of `impl HevcConfig`, hvcC and hvc1 -/

theorem hvcc_byte1_bits : ∀ b, b < 256 →
    ((((b / 2 ^ 6) &&& 3) * 2 ^ 6 % 2 ^ 8) ||| (if (decide (((b / 2 ^ 5) &&& 1) ≠ 0)) = true then 32 else 0)) ||| ((b &&& 31) &&& 31) =
    (b / 64 % 4 * 64) % 256 + (if (decide (b / 32 % 2 ≠ 0)) = true then 0x20 else 0) + b % 32 % 32 := by decide +kernel

/-- `build_hvcc_box(hevc_config)`: the general byte assembled from the three SPS readers, the fixed
    compatibility/constraint/format bytes, and the three parameter-set arrays -/
theorem C19_gen_hvcC (c : HevcConfig) : build_hvcc_box c.vps c.sps c.pps = (bHvcC c).ser := by
  rw [bHvcC, ser_leaf]
  simp only [build_hvcc_box, buildBox, Hevc.general_profile_space, Hevc.general_tier_flag, Hevc.general_profile_idc,
    Hevc.general_level_idc, u16be_mod, List.nil_append, List.append_assoc]
  obtain h3 | ⟨b, h3⟩ := Option.eq_none_or_eq_some c.sps[3]?
  · simp only [h3, Option.map_none]; rfl
  · simp only [h3, Option.map_some, hvcc_byte1_bits b.toNat b.toNat_lt]; rfl

theorem C19_gen_hvc1 (w h : Nat) (c : HevcConfig) :
    build_hvc1_box w h c.vps c.sps c.pps = (bVideoEntry w h (.hevc c)).ser := by
  rw [bVideoEntry, node1_ser _ _ (bHvcC c) (leaf_ser_length _ _ rfl)]
  simp only [build_hvc1_box, C19_gen_hvcC, u16be_mod]
  rfl

/-! ### src/fragmented.rs -/

theorem C19_gen_f_tkhd (c : FragConfig) : Frag.build_tkhd_fmp4 c.width c.height = (fTkhd c).ser := by
  rw [fTkhd, ser_leaf]
  simp only [Frag.build_tkhd_fmp4, u32be_mod]
  rfl

theorem C19_gen_f_avcC (c : FragConfig) : Frag.build_avcc_fmp4 c.sps c.pps = (fAvcC c).ser := by
  rw [fAvcC, ser_leaf]
  simp only [Frag.build_avcc_fmp4, u16be_mod, List.getD_eq_getElem?_getD]
  cases c.sps[1]? <;> cases c.sps[2]? <;> cases c.sps[3]? <;> simp only [Option.getD, u8'_toNat] <;> rfl

theorem C19_gen_f_avc1 (c : FragConfig) :
    Frag.build_avc1_fmp4 c.width c.height c.sps c.pps = (node "avc1" (fEntryPrefix c) [fAvcC c]).ser := by
  rw [node1_ser _ _ (fAvcC c) (leaf_ser_length _ _ rfl)]
  simp only [Frag.build_avc1_fmp4, C19_gen_f_avcC, u16be_mod]
  rfl

/-- `build_hvcc_fmp4(config)`: general byte and level copied from the SPS, two or three arrays -/
theorem C19_gen_f_hvcC (c : FragConfig) : Frag.build_hvcc_fmp4 c.sps c.pps c.vps = (fHvcC c).ser := by
  rw [fHvcC, ser_leaf]
  simp only [Frag.build_hvcc_fmp4, u16be_mod, List.getD_eq_getElem?_getD]
  cases c.vps <;> cases c.sps[3]? <;> cases c.sps[14]? <;>
    simp only [Option.getD, Option.isSome, u8'_toNat, if_true, if_false, Bool.false_eq_true] <;> rfl

theorem C19_gen_f_hvc1 (c : FragConfig) :
    Frag.build_hvc1_fmp4 c.width c.height c.sps c.pps c.vps = (node "hvc1" (fEntryPrefix c) [fHvcC c]).ser := by
  rw [node1_ser _ _ (fHvcC c) (leaf_ser_length _ _ rfl)]
  simp only [Frag.build_hvc1_fmp4, C19_gen_f_hvcC, u16be_mod]
  rfl

end Muxide.Props.C19Generated
