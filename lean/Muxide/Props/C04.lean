import Muxide.Lemmas.Track
import Muxide.Lemmas.Config
import Muxide.Lemmas.F64
import Muxide.Props.C14
import Muxide.Props.C05
/-
  C04 — At any point in any sequence of builder and muxer calls, a write or finish call succeeds
  exactly when none of the documented preconditions is violated, and a failing call's error names
  a precondition that this call actually violated.

  Method: an abstraction relation `Inv m h` between the concrete muxer state `m` and the abstract
  history `h : AbsHist` of accepted calls (`C04_inv_init`, `C04_inv_*`: established by `build`,
  preserved by every call, the history being extended exactly on `ok`). Under `Inv`, each call's
  reply is `Good` w.r.t. the specification's violation list (`C04_video`, `C04_videoDts`,
  `C04_audio`, `C04_finishStats`, `C04_finish`), from which the `iff` and the "error is explained"
  statements follow. A call is its guard chains in answer form (`Muxer.*_answer`, Lemmas/Api.lean);
  a chain is walked once, guard by guard (`Checked`): the guard that fires names a member of the
  list, and where all have passed the list is empty.

  Explicit hypotheses (all shown satisfiable / necessary at the end of the file):
  * `hsplit : ∀ d, nals d = splitAnnexB d` — ASSUMED here (model NAL scanner = declarative split);
  * `IsDouble x` — timestamp arguments are decodings of 64-bit patterns (`F64` has junk triples);
  * `VideoSizeOk` / `AudioSizeOk` — the payload fits the 32-bit sample-size field (< 4 GiB);
  * `NoSizeLimit m` — the file layout does not hit the 4 GiB `mdat` / chunk-offset limits;
-/
namespace Muxide.Props.C04
open Muxide Muxide.Spec

def acodecS : ACodec → Option ACodecS
  | .aac _ => some .aac | .opus => some .opus | .none => none

/-- the abstraction relation between a muxer state and the abstract history of accepted calls -/
structure Inv (m : Muxer) (h : AbsHist) : Prop where
  codec : h.codec = codecS m.w.codec
  audio : h.audio = m.w.audio.bind (fun tr => acodecS tr.codec)
  audioCodec : ∀ tr, m.w.audio = some tr → tr.codec ≠ .none
  audioTrack : m.audioTrack = m.w.audio
  width : h.width = m.width
  height : h.height = m.height
  fin : h.finishAttempted = m.w.finalized
  finished : m.finished = true → m.w.finalized = true
  vsamples : m.w.vsRev.map (fun s => (s.pts, s.dts)) = h.video.reverse.map (fun v => (v.pts.ticks, v.dts.ticks))
  asamples : m.w.asRev.map (fun s => (s.pts, s.dts)) = h.audioPts.reverse.map (fun p => (p.ticks, p.ticks))
  vtrack : TrackOk m.w.vsRev m.w.vPrev m.w.vLastDelta
  atrack : TrackOk m.w.asRev m.w.aPrev m.w.aLastDelta
  vdata : ∀ s ∈ m.w.vsRev, s.data ≠ []
  adata : ∀ s ∈ m.w.asRev, s.data ≠ []
  vcount : m.vCount = h.video.length
  acount : m.aCount = h.audioPts.length
  firstV : m.firstVideoPts = h.video.head?.map (·.pts)
  lastV : m.lastVideoPts = h.video.getLast?.map (·.pts)
  lastA : m.lastAudioPts = h.audioPts.getLast?
  lastDts : ∀ x, m.lastVideoDts = some x → x.isFinite = true ∧ x.isNeg = false ∧
      ∃ p, h.video.getLast? = some p ∧ x.ticks ≤ p.dts.ticks
  vgood : ∀ v ∈ h.video, v.pts.isFinite = true ∧ v.pts.isNeg = false ∧ v.dts.isFinite = true ∧ v.dts.isNeg = false ∧
      ¬ ctsBad v.pts.ticks v.dts.ticks
  agood : ∀ p ∈ h.audioPts, p.isFinite = true ∧ p.isNeg = false

/-- the abstract history right after `build` -/
def initHist (c : Config) : AbsHist :=
  { codec := codecS c.codec
    audio := (c.audio.bind fun a => if a.codec = .none then none else some a).bind (fun tr => acodecS tr.codec)
    width := c.width, height := c.height }

theorem C04_inv_init (c : Config) : Inv (build c) (initHist c) := by
  -- nothing is queued yet, so the clauses about samples hold of the empty list
  refine ⟨rfl, rfl, fun tr ht => ?_, rfl, rfl, rfl, rfl, fun hf => Bool.noConfusion hf, rfl, rfl, ⟨rfl, rfl⟩, ⟨rfl, rfl⟩,
    fun _ hs => absurd hs List.not_mem_nil, fun _ hs => absurd hs List.not_mem_nil, rfl, rfl, rfl, rfl, rfl,
    fun _ hx => (nomatch hx), fun _ hv => absurd hv List.not_mem_nil, fun _ hp => absurd hp List.not_mem_nil⟩
  -- `build` keeps an audio track only if its codec is not `None`
  obtain ⟨a, -, ha⟩ := Option.bind_eq_some_iff.mp ht
  split at ha
  · cases ha
  · cases ha; assumption

/-! ### the specification's violation lists, component by component

Each list is a concatenation of clauses `if c then [v] else []`; a membership fact is "unfold, `∈ ++` is a
disjunction, this disjunct holds". -/

section spec
variable (h : AbsHist) (via : Bool) (pts dts : F64) (d : Bytes) (k : Bool)

/-- the timestamp clause the three lists share (`bad`/`neg` = the violations it names) -/
theorem mem_ts_bad {bad neg : Violation} {x : F64}
    (hx : x.isFinite = false ∨ (x.isNeg = false ∧ tickInRange x = false)) :
    bad ∈ (if ¬ x.isFinite then [bad] else if x.isNeg then [neg] else if ¬ tickInRange x then [bad] else []) := by
  rcases hx with hx | ⟨h1, h2⟩
  · simp [hx]
  · by_cases hf : x.isFinite = true <;> simp [hf, h1, h2]

theorem mem_ts_neg {bad neg : Violation} {x : F64} (hf : x.isFinite = true) (hn : x.isNeg = true) :
    neg ∈ (if ¬ x.isFinite then [bad] else if x.isNeg then [neg] else if ¬ tickInRange x then [bad] else []) := by
  simp [hf, hn]

theorem mem_v_finished (hf : h.finishAttempted = true) : .finished ∈ videoViolations h via pts dts d k := by
  simp only [videoViolations, List.mem_append, if_pos hf, List.mem_singleton, true_or]
theorem mem_v_empty (hd : d = []) : .empty ∈ videoViolations h via pts dts d k := by
  simp only [videoViolations, List.mem_append, if_pos hd, List.mem_singleton, true_or, or_true]
theorem mem_v_nonFinitePts (hp : pts.isFinite = false ∨ (pts.isNeg = false ∧ tickInRange pts = false)) :
    .nonFinitePts ∈ videoViolations h via pts dts d k := by
  simp only [videoViolations, List.mem_append, mem_ts_bad hp, true_or, or_true]
theorem mem_v_negativePts (hf : pts.isFinite = true) (hn : pts.isNeg = true) :
    .negativePts ∈ videoViolations h via pts dts d k := by
  simp only [videoViolations, List.mem_append, mem_ts_neg hf hn, true_or, or_true]
theorem mem_v_nonFiniteDts (hp : dts.isFinite = false ∨ (dts.isNeg = false ∧ tickInRange dts = false)) :
    .nonFiniteDts ∈ videoViolations h via pts dts d k := by
  simp only [videoViolations, List.mem_append, mem_ts_bad hp, true_or, or_true]
theorem mem_v_negativeDts (hf : dts.isFinite = true) (hn : dts.isNeg = true) :
    .negativeDts ∈ videoViolations h via pts dts d k := by
  simp only [videoViolations, List.mem_append, mem_ts_neg hf hn, true_or, or_true]
theorem mem_v_gap_cts (hc : ctsBad pts.ticks dts.ticks) : .gap ∈ videoViolations h via pts dts d k := by
  simp only [videoViolations, List.mem_append, if_pos (show _ ∨ _ from hc), List.mem_singleton, true_or, or_true]
theorem mem_v_order (p : AbsVideo) (hp : h.video.getLast? = some p)
    (ho : (via = true ∧ F64.le pts p.pts = true) ∨ dts.ticks ≤ p.dts.ticks) :
    .videoOrder ∈ videoViolations h via pts dts d k := by
  have ho' : ((via && F64.le pts p.pts) || decide (dts.ticks ≤ p.dts.ticks)) = true := by simpa using ho
  simp only [videoViolations, List.mem_append, hp, if_pos ho', List.mem_singleton, true_or, or_true]
theorem mem_v_gap_delta (p : AbsVideo) (hp : h.video.getLast? = some p)
    (ho : dts.ticks - p.dts.ticks > u32MaxS) : .gap ∈ videoViolations h via pts dts d k := by
  simp only [videoViolations, List.mem_append, hp, if_pos ho, List.mem_singleton, or_true]
theorem mem_v_firstNotKey (hp : h.video.getLast? = none) (hk : k = false) :
    .firstNotKey ∈ videoViolations h via pts dts d k := by
  simp only [videoViolations, List.mem_append, hp, hk, Bool.false_eq_true, not_false_eq_true, if_true,
    List.mem_singleton, true_or, or_true]
theorem mem_v_firstNoConfig (hp : h.video.getLast? = none) (hk : carriesConfig h.codec d = false) :
    .firstNoConfig ∈ videoViolations h via pts dts d k := by
  simp only [videoViolations, List.mem_append, hp, hk, Bool.false_eq_true, not_false_eq_true, if_true,
    List.mem_singleton, or_true]

theorem ite_single_nil {α} (c : Prop) [Decidable c] (x : α) : (if c then [x] else []) = [] ↔ ¬ c := by
  by_cases hc : c <;> simp [hc]

theorem videoViolations_nil
    (h1 : h.finishAttempted = false) (h2 : d ≠ [])
    (h3 : pts.isFinite = true) (h4 : pts.isNeg = false) (h5 : tickInRange pts = true)
    (h6 : dts.isFinite = true) (h7 : dts.isNeg = false) (h8 : tickInRange dts = true)
    (h9 : ¬ ctsBad pts.ticks dts.ticks)
    (h10 : ∀ p, h.video.getLast? = some p →
      ¬ (via = true ∧ F64.le pts p.pts = true) ∧ ¬ dts.ticks ≤ p.dts.ticks ∧ ¬ dts.ticks - p.dts.ticks > u32MaxS)
    (h11 : h.video.getLast? = none → k = true ∧ carriesConfig h.codec d = true) :
    videoViolations h via pts dts d k = [] := by
  unfold videoViolations
  unfold ctsBad at h9
  simp only [h1, h2, h3, h4, h5, h6, h7, h8, Bool.false_eq_true, if_false, not_true,
    List.nil_append, if_neg h9]
  cases hp : h.video.getLast? with
  | none =>
    obtain ⟨a, b⟩ := h11 hp
    simp [a, b]
  | some p =>
    obtain ⟨a, b, c⟩ := h10 p hp
    simp only [List.append_eq_nil_iff, ite_single_nil, Bool.or_eq_true, Bool.and_eq_true, decide_eq_true_eq]
    exact ⟨fun x => x.elim a b, c⟩

theorem mem_a_finished (hf : h.finishAttempted = true) : .finished ∈ audioViolations h pts d := by
  simp only [audioViolations, List.mem_append, if_pos hf, List.mem_singleton, true_or]
theorem mem_a_notConfigured (ha : h.audio = none) : .audioNotConfigured ∈ audioViolations h pts d := by
  simp only [audioViolations, List.mem_append, ha, List.mem_singleton, true_or, or_true]
theorem mem_a_framing (a : ACodecS) (ha : h.audio = some a) (hd : d ≠ []) (hv : validAudioFraming a d = false) :
    .badAudioFraming ∈ audioViolations h pts d := by
  have hc : d ≠ [] ∧ ¬ validAudioFraming a d = true := ⟨hd, by simp [hv]⟩
  simp only [audioViolations, List.mem_append, ha, if_pos hc, List.mem_singleton, true_or, or_true]
theorem mem_a_nonFinitePts (hp : pts.isFinite = false ∨ (pts.isNeg = false ∧ tickInRange pts = false)) :
    .nonFinitePts ∈ audioViolations h pts d := by
  simp only [audioViolations, List.mem_append, mem_ts_bad hp, true_or, or_true]
theorem mem_a_negativePts (hf : pts.isFinite = true) (hn : pts.isNeg = true) :
    .negativePts ∈ audioViolations h pts d := by
  simp only [audioViolations, List.mem_append, mem_ts_neg hf hn, true_or, or_true]
theorem mem_a_empty (hd : d = []) : .empty ∈ audioViolations h pts d := by
  simp only [audioViolations, List.mem_append, if_pos hd, List.mem_singleton, true_or, or_true]
theorem mem_a_order (p : F64) (hp : h.audioPts.getLast? = some p) (ho : F64.lt pts p = true) :
    .audioOrder ∈ audioViolations h pts d := by
  simp only [audioViolations, List.mem_append, hp, if_pos ho, List.mem_singleton, true_or, or_true]
theorem mem_a_gap (p : F64) (hp : h.audioPts.getLast? = some p) (ho : pts.ticks - p.ticks > u32MaxS) :
    .gap ∈ audioViolations h pts d := by
  simp only [audioViolations, List.mem_append, hp, if_pos ho, List.mem_singleton, true_or, or_true]
theorem mem_a_beforeVideo (hv : h.video.head? = none ∨ ∃ v, h.video.head? = some v ∧ F64.lt pts v.pts = true) :
    .audioBeforeVideo ∈ audioViolations h pts d := by
  rcases hv with hv | ⟨v, hv, hl⟩
  · simp only [audioViolations, List.mem_append, hv, List.mem_singleton, or_true]
  · simp only [audioViolations, List.mem_append, hv, if_pos hl, List.mem_singleton, or_true]

theorem audioViolations_nil (a : ACodecS)
    (h1 : h.finishAttempted = false) (h2 : h.audio = some a) (h3 : validAudioFraming a d = true)
    (h4 : pts.isFinite = true) (h5 : pts.isNeg = false) (h6 : tickInRange pts = true) (h7 : d ≠ [])
    (h8 : ∀ p, h.audioPts.getLast? = some p → F64.lt pts p = false ∧ ¬ pts.ticks - p.ticks > u32MaxS)
    (h9 : ∃ v, h.video.head? = some v ∧ F64.lt pts v.pts = false) :
    audioViolations h pts d = [] := by
  obtain ⟨v, hv, hl⟩ := h9
  unfold audioViolations
  simp only [h1, h2, h3, h4, h5, h6, h7, hv, hl, Bool.false_eq_true, if_false, not_true, and_false,
    List.nil_append, List.append_nil]
  cases hp : h.audioPts.getLast? with
  | none => simp
  | some p =>
    obtain ⟨x, y⟩ := h8 p hp
    simp [x, y]

theorem mem_f_finished (hf : h.finishAttempted = true) : .finished ∈ finishViolations h := by
  simp only [finishViolations, List.mem_append, if_pos hf, List.mem_singleton, true_or]
theorem mem_f_gap (hg : trackDuration (h.video.map (·.dts.ticks)) > u32MaxS ∨
    trackDuration (h.audioPts.map (·.ticks)) > u32MaxS ∨ h.width > 65535 ∨ h.height > 65535) :
    .gap ∈ finishViolations h := by
  simp only [finishViolations, List.mem_append, if_pos hg, List.mem_singleton, or_true]
theorem finishViolations_nil (h1 : h.finishAttempted = false)
    (hg : ¬ (trackDuration (h.video.map (·.dts.ticks)) > u32MaxS ∨
      trackDuration (h.audioPts.map (·.ticks)) > u32MaxS ∨ h.width > 65535 ∨ h.height > 65535)) :
    finishViolations h = [] := by
  unfold finishViolations
  rw [if_neg hg]; simp [h1]

end spec

/-! ### consequences of the invariant -/

theorem trackOk_prev {rev : List Sample} {prev ld : Option Nat} (h : TrackOk rev prev ld) :
    prev = rev.head?.map (·.dts) := by
  cases rev <;> exact h.1

/-- the decode times in a queue are those of the history (clauses `vsamples`, `asamples` of the invariant) -/
theorem dts_of_samples {α} {rev : List Sample} {l : List α} {f : α → Nat × Nat}
    (h : rev.map (fun s => (s.pts, s.dts)) = l.reverse.map f) :
    rev.map (·.dts) = (l.map fun x => (f x).2).reverse := by
  simpa [Function.comp_def] using congrArg (List.map Prod.snd) h

theorem Inv.vPrev {m : Muxer} {h : AbsHist} (hinv : Inv m h) :
    m.w.vPrev = h.video.getLast?.map (·.dts.ticks) := by
  rw [trackOk_prev hinv.vtrack, ← List.head?_map, dts_of_samples hinv.vsamples, List.head?_reverse,
    List.getLast?_map]

theorem Inv.aPrev {m : Muxer} {h : AbsHist} (hinv : Inv m h) :
    m.w.aPrev = h.audioPts.getLast?.map (·.ticks) := by
  rw [trackOk_prev hinv.atrack, ← List.head?_map, dts_of_samples hinv.asamples, List.head?_reverse,
    List.getLast?_map]

theorem Inv.fin_of_finished {m : Muxer} {h : AbsHist} (hinv : Inv m h) (hf : m.finished = true) :
    h.finishAttempted = true := hinv.fin.trans (hinv.finished hf)

/-- what a reply must satisfy against the list of violated preconditions -/
def Good (vs : List Violation) (r : Reply) : Prop :=
  match r with
  | .ok => vs = []
  | .err e _ => ∃ v ∈ vs, v ∈ explains e.name
  | _ => False

theorem Good.mk_err {vs : List Violation} {e : MErr} {i : Option Nat} (v : Violation) (hv : v ∈ vs)
    (he : v ∈ explains e.name) : Good vs (.err e i) := ⟨v, hv, he⟩

/-- `Spec.explains` read off the error variant instead of the variant's name -/
def explainsE : MErr → List Violation
  | .alreadyFinished => [.finished]
  | .io => [.gap, .finished]
  | .emptyVideoFrame | .emptyAudioFrame => [.empty]
  | .invalidVideoPts | .invalidAudioPts => [.nonFinitePts]
  | .negativeVideoPts | .negativeAudioPts => [.negativePts]
  | .invalidVideoDts => [.nonFiniteDts]
  | .negativeVideoDts => [.negativeDts]
  | .nonIncreasingVideoPts | .nonIncreasingDts => [.videoOrder]
  | .firstVideoFrameMustBeKeyframe => [.firstNotKey]
  | .firstVideoFrameMissingSpsPps | .firstAv1FrameMissingSequenceHeader
  | .firstVp9FrameMissingSequenceHeader => [.firstNoConfig]
  | .audioNotConfigured => [.audioNotConfigured]
  | .decreasingAudioPts => [.audioOrder]
  | .audioBeforeFirstVideo => [.audioBeforeVideo]
  | .invalidAdts | .invalidAdtsDetailed | .invalidOpusPacket => [.badAudioFraming]
  | .missingVideoConfig => []

/-- the string table of `explains`, evaluated once, variant by variant (string comparison is slow to
    check; every use below goes through `explainsE`) -/
theorem explains_name (e : MErr) : explains e.name = explainsE e := by
  cases e <;> decide

/-- an error reply is `Good` when the list holds a violation that the error names; the lookup `he` in the table
    is by evaluation, here and in `Checked.guard`, `Checked.ts` -/
theorem Good.err {vs : List Violation} {e : MErr} {i : Option Nat} {v : Violation} (hv : v ∈ vs)
    (he : v ∈ explainsE e := by decide) : Good vs (.err e i) := .mk_err v hv (explains_name e ▸ he)

theorem u32Max_eq : u32Max = u32MaxS := rfl

/-! ### a chain of guards against a violation list

`Checked vs f P o`: if the guard chain `o` names an error, the reply `f` makes of it is `Good` for `vs`; if
it names none, `P` holds. A chain is walked guard by guard with `Checked.ite`: only the guard that fires has
to be justified, under the negations of those before it, and `P` is proved where all have passed. -/

def Checked {β} (vs : List Violation) (f : β → Reply) (P : Prop) (o : Option β) : Prop :=
  (∀ b, o = some b → Good vs (f b)) ∧ (o = none → P)

theorem Checked.refuse {β} {vs : List Violation} {f : β → Reply} {P : Prop} {b : β} (h : Good vs (f b)) :
    Checked vs f P (some b) := ⟨fun _ hb => Option.some.inj hb ▸ h, nofun⟩

theorem Checked.pass {β} {vs : List Violation} {f : β → Reply} {P : Prop} (h : P) : Checked vs f P none :=
  ⟨nofun, fun _ => h⟩

theorem Checked.ite {β} {vs : List Violation} {f : β → Reply} {P : Prop} {c : Prop} [Decidable c] {b : β}
    {r : Option β} (h1 : c → Good vs (f b)) (h2 : ¬ c → Checked vs f P r) :
    Checked vs f P (if c then some b else r) := by
  by_cases hc : c
  · rw [if_pos hc]; exact .refuse (h1 hc)
  · rw [if_neg hc]; exact h2 hc

/-- two stages in a row: the second is consulted only if the first names no error. (Stated for `WErr`: with a
    type variable in its place the `match` does not unify with that of `Writer.audioErr`.) -/
theorem Checked.seq {vs : List Violation} {f : WErr → Reply} {P Q : Prop} {o₁ o₂ : Option WErr}
    (h1 : Checked vs f Q o₁) (h2 : Q → Checked vs f P o₂) :
    Checked vs f P (match (generalizing := false) o₁ with | some e => some e | none => o₂) := by
  cases o₁ with
  | some e => exact .refuse (h1.1 e rfl)
  | none => exact h2 (h1.2 rfl)

@[elab_as_elim]
theorem Checked.elim {β} {vs : List Violation} {f : β → Reply} {P : Prop} {motive : Option β → Prop}
    {o : Option β} (h : Checked vs f P o) (hn : P → motive none) (hs : ∀ b, Good vs (f b) → motive (some b)) :
    motive o := by
  cases o with
  | none => exact hn (h.2 rfl)
  | some b => exact hs b (h.1 b rfl)

/-- `x` is a genuine double (the decoding of a 64-bit pattern) -/
abbrev IsDouble (x : F64) : Prop := F64.canon x

theorem tir_of_repr {x : F64} (hc : IsDouble x) (hf : x.isFinite = true) (hn : x.isNeg = false)
    (b : Bool) (hr : ticksRepresentable x = b) : tickInRange x = b := by
  rw [← F64.ticksRepresentable_eq_tickInRange x hc hf hn]; exact hr

/-- a guard of an API call: its error `e` names `v`, which is violated whenever the guard fires -/
theorem Checked.guard {vs : List Violation} {P : Prop} {c : Prop} [Decidable c] {e : MErr} {i : Option Nat}
    {r : Option (MErr × Option Nat)} {v : Violation} (hv : c → v ∈ vs)
    (h2 : ¬ c → Checked vs (fun p => .err p.1 p.2) P r) (he : v ∈ explainsE e := by decide) :
    Checked vs (fun p => .err p.1 p.2) P (if c then some (e, i) else r) :=
  .ite (fun hc => .err (hv hc) he) h2

/-- the three guards every call puts on a time argument, against the specification's timestamp clause
    (`hbad`, `hneg` are what `mem_*_nonFinite*` / `mem_*_negative*` prove) -/
theorem Checked.ts {vs : List Violation} {P : Prop} {x : F64} (hc : IsDouble x) {bad neg : MErr} {i : Option Nat}
    {r : Option (MErr × Option Nat)} {vbad vneg : Violation}
    (hbad : x.isFinite = false ∨ (x.isNeg = false ∧ tickInRange x = false) → vbad ∈ vs)
    (hneg : x.isFinite = true → x.isNeg = true → vneg ∈ vs)
    (hr : x.isFinite = true → x.isNeg = false → tickInRange x = true → Checked vs (fun p => .err p.1 p.2) P r)
    (hb : vbad ∈ explainsE bad := by decide) (hn : vneg ∈ explainsE neg := by decide) :
    Checked vs (fun p => .err p.1 p.2) P (if ¬ x.isFinite then some (bad, i) else if x.isNeg then some (neg, i)
      else if ¬ ticksRepresentable x then some (bad, i) else r) := by
  refine .guard (fun hf => hbad (.inl (by simpa using hf))) (fun hf => ?_) hb
  rw [Decidable.not_not] at hf
  refine .guard (hneg hf) (fun hn => ?_) hn
  rw [Bool.not_eq_true] at hn
  refine .guard (fun hr => hbad (.inr ⟨hn, tir_of_repr hc hf hn false (by simpa using hr)⟩)) (fun hr' => ?_) hb
  exact hr hf hn (tir_of_repr hc hf hn true (Decidable.not_not.mp hr'))

/-- a frame-writing call is `Good` when its own guards and then the writer's are `Checked`, nothing being
    violated once all have passed -/
theorem Good.answer {vs : List Violation} {m : Muxer} {pre : Option (MErr × Option Nat)} {werr : Option WErr}
    {idx : Nat} {acc : Muxer}
    (h : Checked vs (fun p => .err p.1 p.2) (Checked vs (convertErr · idx) (vs = []) werr) pre) :
    Good vs (m.answer pre werr idx acc).2 := by
  cases pre with
  | some p => exact h.1 p rfl
  | none =>
    cases werr with
    | some e => exact (h.2 rfl).1 e rfl
    | none => exact (h.2 rfl).2 rfl

/-- residual hypothesis: the stored video payload fits the 32-bit sample-size field -/
def VideoSizeOk (m : Muxer) (d : Bytes) : Prop := (convertPayload m.w.codec d).length ≤ u32Max

/-- the writer-level checks of a video write, against the specification -/
theorem writer_video (hsplit : ∀ d, nals d = splitAnnexB d) {m : Muxer} {h : AbsHist} (hinv : Inv m h)
    (via : Bool) (pts dts : F64) (d : Bytes) (k : Bool) (idx : Nat) (hsize : VideoSizeOk m d) :
    match m.w.videoErr pts.ticks dts.ticks d k with
    | none => h.finishAttempted = false ∧ ¬ ctsBad pts.ticks dts.ticks ∧
        (∀ p, h.video.getLast? = some p → ¬ dts.ticks ≤ p.dts.ticks ∧ ¬ dts.ticks - p.dts.ticks > u32MaxS) ∧
        (h.video.getLast? = none → k = true ∧ carriesConfig h.codec d = true)
    | some e => Good (videoViolations h via pts dts d k) (convertErr e idx) := by
  refine Checked.elim (f := (convertErr · idx)) (o := m.w.videoErr pts.ticks dts.ticks d k) ?_ id fun _ => id
  have hcfg : (∃ c, extractConfig m.w.codec d = .some c) ↔ carriesConfig h.codec d = true := by
    rw [hinv.codec]; exact extractConfig_some_iff hsplit m.w.codec d
  unfold Writer.videoErr
  refine .ite (fun hf => .err (mem_v_finished _ _ _ _ _ _ (hinv.fin.trans hf))) fun hf => ?_
  have hfa : h.finishAttempted = false := hinv.fin.trans (Bool.not_eq_true _ ▸ hf)
  -- the two guards that end either branch: the sample-size field (excluded by `hsize`), the cts range
  have tail : ∀ {P : Prop}, (¬ ctsBad pts.ticks dts.ticks → P) →
      Checked (videoViolations h via pts dts d k) (convertErr · idx) P
        (if (convertPayload m.w.codec d).length > u32Max then some .durationOverflow else
         if ctsBad pts.ticks dts.ticks then some .durationOverflow else none) := fun hP =>
    .ite (fun h3 => absurd h3 (Nat.not_lt.mpr hsize)) fun _ =>
    .ite (fun h4 => .err (mem_v_gap_cts _ _ _ _ _ _ h4)) fun h4 => .pass (hP h4)
  rw [hinv.vPrev]
  cases hp : h.video.getLast? with
  | some p =>
    refine .ite (fun h1 => .err (mem_v_order _ _ _ _ _ _ p hp (.inr h1))) fun h1 => ?_
    refine .ite (fun h2 => .err (mem_v_gap_delta _ _ _ _ _ _ p hp h2)) fun h2 => ?_
    exact tail fun h4 => ⟨hfa, h4, fun _ hp' => Option.some.inj hp' ▸ ⟨h1, h2⟩, nofun⟩
  | none =>
    refine .ite (fun hk => .err (mem_v_firstNotKey _ _ _ _ _ _ hp (by simpa using hk))) fun hk => ?_
    cases hc : extractConfig m.w.codec d with
    | some c =>
      exact tail fun h4 => ⟨hfa, h4, fun _ => nofun, fun _ => ⟨by simpa using hk, hcfg.mp ⟨c, hc⟩⟩⟩
    | none =>
      have hm := mem_v_firstNoConfig h via pts dts d k hp
        (Bool.eq_false_iff.mpr fun hx => by obtain ⟨c, hc'⟩ := hcfg.mpr hx; rw [hc] at hc'; cases hc')
      refine .refuse ?_
      cases m.w.codec <;> exact .err hm

/-- after the API guards of either video call: the writer's checks, and acceptance means that no
    precondition is violated -/
theorem video_tail (hsplit : ∀ d, nals d = splitAnnexB d) {m : Muxer} {h : AbsHist} (hinv : Inv m h)
    (via : Bool) {pts dts : F64} {d : Bytes} (k : Bool) (hsize : VideoSizeOk m d) (hd : d ≠ [])
    (pf : pts.isFinite = true) (pn : pts.isNeg = false) (pr : tickInRange pts = true)
    (df : dts.isFinite = true) (dn : dts.isNeg = false) (dr : tickInRange dts = true)
    (hord : ∀ p, h.video.getLast? = some p → ¬ (via = true ∧ F64.le pts p.pts = true)) :
    Checked (videoViolations h via pts dts d k) (convertErr · m.vCount) (videoViolations h via pts dts d k = [])
      (m.w.videoErr pts.ticks dts.ticks d k) := by
  have hw := writer_video hsplit hinv via pts dts d k m.vCount hsize
  cases he : m.w.videoErr pts.ticks dts.ticks d k with
  | some e => rw [he] at hw; exact .refuse hw
  | none =>
    rw [he] at hw
    obtain ⟨a, b, c, e⟩ := hw
    exact .pass (videoViolations_nil _ _ _ _ _ _ a hd pf pn pr df dn dr b (fun p hl => ⟨hord p hl, c p hl⟩) e)

/-- **write_video**: the reply against the violated preconditions (`Good`): `ok` only if nothing is
    violated, an error only if it names a violated precondition, never anything else -/
theorem C04_video (hsplit : ∀ d, nals d = splitAnnexB d) {m : Muxer} {h : AbsHist} (hinv : Inv m h)
    (pts : F64) (d : Bytes) (k : Bool) (hc : IsDouble pts) (hsize : VideoSizeOk m d) :
    Good (videoViolations h true pts pts d k) (m.writeVideo pts d k).2 := by
  rw [Muxer.writeVideo_answer]
  refine Good.answer ?_
  simp only [Muxer.wvPre, apply_ite (Option.map _), Option.map_some, Option.map_none]
  refine .guard (mem_v_empty _ _ _ _ _ _) fun hd => ?_
  refine .ts hc (mem_v_nonFinitePts _ _ _ _ _ _) (mem_v_negativePts _ _ _ _ _ _) fun pf pn pr => ?_
  rw [hinv.lastV]
  refine .guard (v := .videoOrder) (fun h5 => ?_) fun h5 => ?_
  · cases hl : h.video.getLast? with
    | none => rw [hl] at h5; cases h5
    | some p => rw [hl] at h5; exact mem_v_order _ _ _ _ _ _ p hl (.inl ⟨rfl, h5⟩)
  · exact .pass <| video_tail hsplit hinv true k hsize hd pf pn pr pf pn pr fun p hl hle => h5 (by rw [hl]; exact hle.2)

/-- **write_video_with_dts** -/
theorem C04_videoDts (hsplit : ∀ d, nals d = splitAnnexB d) {m : Muxer} {h : AbsHist} (hinv : Inv m h)
    (pts dts : F64) (d : Bytes) (k : Bool) (hc : IsDouble pts) (hcd : IsDouble dts) (hsize : VideoSizeOk m d) :
    Good (videoViolations h false pts dts d k) (m.writeVideoDts pts dts d k).2 := by
  rw [Muxer.writeVideoDts_answer]
  refine Good.answer ?_
  unfold Muxer.wvdPre
  refine .guard (fun h0 => mem_v_finished _ _ _ _ _ _ (hinv.fin_of_finished h0)) fun _ => ?_
  refine .guard (mem_v_empty _ _ _ _ _ _) fun hd => ?_
  refine .ts hc (mem_v_nonFinitePts _ _ _ _ _ _) (mem_v_negativePts _ _ _ _ _ _) fun pf pn pr => ?_
  refine .ts hcd (mem_v_nonFiniteDts _ _ _ _ _ _) (mem_v_negativeDts _ _ _ _ _ _) fun df dn dr => ?_
  refine .guard (v := .videoOrder) (fun h5 => ?_) fun _ => ?_
  · -- `last_video_dts` is the decode time of an accepted frame no later than the newest one
    cases hl : m.lastVideoDts with
    | none => rw [hl] at h5; cases h5
    | some x =>
      rw [hl] at h5
      obtain ⟨xf, xn, p, hp, hle⟩ := hinv.lastDts x hl
      exact mem_v_order _ _ _ _ _ _ p hp (.inr (Nat.le_trans (F64.ticks_mono dts x df xf dn xn h5) hle))
  · exact .pass <| video_tail hsplit hinv false k hsize hd pf pn pr df dn dr fun p _ hle => Bool.false_ne_true hle.1

/-- residual hypothesis: the audio frame fits the 32-bit sample-size field -/
def AudioSizeOk (d : Bytes) : Prop := d.length ≤ u32Max

/-- the payload conversion of `write_audio_sample` against the specification's framing test -/
theorem audioPayload_spec {c : ACodec} (hc : c ≠ .none) (d : Bytes) :
    ∃ a, acodecS c = some a ∧
      match audioPayload c d with
      | .ok sd => validAudioFraming a d = true ∧ sd.length ≤ d.length ∧ (d ≠ [] → sd ≠ [])
      | .error e => validAudioFraming a d = false ∧ (e = .invalidOpusPacket ∨ ∃ k, e = .invalidAdts k) := by
  unfold audioPayload
  cases c with
  | none => exact absurd rfl hc
  | opus =>
    refine ⟨.opus, rfl, ?_⟩
    dsimp only
    by_cases hv : isValidOpus d = true
    · rw [if_pos hv]; exact ⟨hv, Nat.le_refl _, id⟩
    · rw [if_neg hv]; exact ⟨Bool.not_eq_true _ ▸ hv, .inl rfl⟩
  | aac p =>
    refine ⟨.aac, rfl, ?_⟩
    dsimp only
    cases hr : adtsToRaw d with
    | ok r =>
      have hl := adtsToRaw_length hr
      exact ⟨(Muxide.Props.C14.C14_adts d).2.mp ⟨r, hr⟩, by omega, fun _ h => by subst h; simp at hl; omega⟩
    | error k =>
      refine ⟨Bool.eq_false_iff.mpr fun hx => ?_, .inr ⟨k, rfl⟩⟩
      obtain ⟨r, hr'⟩ := (Muxide.Props.C14.C14_adts d).2.mpr hx
      rw [hr] at hr'; cases hr'

theorem writer_audio {m : Muxer} {h : AbsHist} (hinv : Inv m h) (pts : F64) (d : Bytes) (idx : Nat)
    (hd : d ≠ []) (hsize : AudioSizeOk d)
    (hord : ∀ p, h.audioPts.getLast? = some p → p.ticks ≤ pts.ticks) :
    match m.w.audioErr pts.ticks d with
    | none => h.finishAttempted = false ∧ (∃ a, h.audio = some a ∧ validAudioFraming a d = true) ∧
        (∀ p, h.audioPts.getLast? = some p → ¬ pts.ticks - p.ticks > u32MaxS) ∧ storedAudio m.w d ≠ []
    | some e => Good (audioViolations h pts d) (convertErr e idx) := by
  refine Checked.elim (f := (convertErr · idx)) (o := m.w.audioErr pts.ticks d) ?_ id fun _ => id
  unfold AudioSizeOk at hsize
  unfold Writer.audioErr
  refine .ite (fun hf => .err (mem_a_finished _ _ _ (hinv.fin.trans hf))) fun hf => ?_
  have hfa : h.finishAttempted = false := hinv.fin.trans (Bool.not_eq_true _ ▸ hf)
  cases ha : m.w.audio with
  | none => exact .refuse (.err (mem_a_notConfigured _ _ _ (by rw [hinv.audio, ha]; rfl)))
  | some tr =>
    dsimp only
    refine .seq (Q := ∀ p, h.audioPts.getLast? = some p → ¬ pts.ticks - p.ticks > u32MaxS) ?_ fun hgap => ?_
    · -- the timestamp checks (the first cannot fire, by `hord`)
      rw [hinv.aPrev]
      cases hp : h.audioPts.getLast? with
      | none => exact .pass nofun
      | some p =>
        refine .ite (fun h1 => absurd h1 (Nat.not_lt.mpr (hord p hp))) fun _ => ?_
        exact .ite (fun h2 => .err (mem_a_gap _ _ _ p hp h2)) fun h2 =>
          .pass fun _ hp' => Option.some.inj hp' ▸ h2
    · -- payload conversion, then the sample-size field (excluded by `hsize`: the stored payload is no
      -- longer than the frame)
      obtain ⟨a, hca, hs⟩ := audioPayload_spec (hinv.audioCodec tr ha) d
      have haud : h.audio = some a := by rw [hinv.audio, ha]; exact hca
      cases hpd : audioPayload tr.codec d with
      | error e =>
        rw [hpd] at hs
        have hm := mem_a_framing h pts d a haud hd hs.1
        rcases hs.2 with rfl | ⟨k, rfl⟩ <;> exact .refuse (.err hm)
      | ok sd =>
        rw [hpd] at hs
        have hst : storedAudio m.w d = sd := by simp only [storedAudio, ha, hpd]
        exact .ite (fun h3 => absurd h3 (by omega)) fun _ => .pass ⟨hfa, ⟨a, haud, hs.1⟩, hgap, hst ▸ hs.2.2 hd⟩

/-- **write_audio** -/
theorem C04_audio {m : Muxer} {h : AbsHist} (hinv : Inv m h)
    (pts : F64) (d : Bytes) (hc : IsDouble pts) (hsize : AudioSizeOk d) :
    Good (audioViolations h pts d) (m.writeAudio pts d).2 := by
  rw [Muxer.writeAudio_answer]
  refine Good.answer ?_
  unfold Muxer.waPre
  refine .guard (fun h0 => mem_a_finished _ _ _ (hinv.fin_of_finished h0)) fun _ => ?_
  refine .guard (fun ha => mem_a_notConfigured _ _ _ ?_) fun _ => ?_
  · rw [hinv.audio, ← hinv.audioTrack, Option.isNone_iff_eq_none.mp ha]; rfl
  refine .ts hc (mem_a_nonFinitePts _ _ _) (mem_a_negativePts _ _ _) fun pf pn pr => ?_
  refine .guard (mem_a_empty _ _ _) fun hd => ?_
  rw [hinv.lastA, hinv.firstV]
  refine .guard (v := .audioOrder) (fun h5 => ?_) fun h5 => ?_
  · cases hl : h.audioPts.getLast? with
    | none => rw [hl] at h5; cases h5
    | some p => rw [hl] at h5; exact mem_a_order _ _ _ p hl h5
  cases hv : h.video.head? with
  | none => exact .refuse (.err (e := .audioBeforeFirstVideo) (mem_a_beforeVideo _ _ _ (.inl hv)))
  | some v =>
    refine .guard (fun h6 => mem_a_beforeVideo _ _ _ (.inr ⟨v, hv, h6⟩)) fun h6 => ?_
    -- the previous accepted audio frame is not later than this one
    have hlt : ∀ p, h.audioPts.getLast? = some p → F64.lt pts p = false := fun p hl => by
      rw [hl] at h5; simpa [prevLt] using h5
    have hord : ∀ p, h.audioPts.getLast? = some p → p.ticks ≤ pts.ticks := fun p hl => by
      obtain ⟨qf, qn⟩ := hinv.agood p (List.mem_of_getLast? hl)
      have hle : F64.le p pts = true := by simpa [F64.lt_eq_not_le pts p pf qf] using hlt p hl
      exact F64.ticks_mono p pts qf pf qn pn hle
    have hw := writer_audio hinv pts d m.aCount hd hsize hord
    cases he : m.w.audioErr pts.ticks d with
    | some e => rw [he] at hw; exact .pass (.refuse hw)
    | none =>
      rw [he] at hw
      obtain ⟨a, ⟨ac, b1, b2⟩, c, _⟩ := hw
      exact .pass <| .pass (audioViolations_nil _ _ _ ac a b1 b2 pf pn pr hd (fun p hl => ⟨hlt p hl, c p hl⟩)
        ⟨v, hv, by simpa using h6⟩)

/-! ### finish -/

/-- residual hypothesis: the layout stage of `finalize` reports none of its 4 GiB size-limit errors
    (`mdat` box size / chunk offset beyond 32 bits) -/
def NoSizeLimit (m : Muxer) : Prop :=
  ∀ msg, (layoutOut m.w m.width m.height m.md m.fast).res ≠ .ioErr msg

theorem Inv.no_panic {m : Muxer} {h : AbsHist} (hinv : Inv m h) (W H : Nat) :
    moovPanics W H m.w.vsRev.reverse [] false = false ∧
    moovPanics W H m.w.vsRev.reverse m.w.asRev.reverse true = false := by
  -- composition offsets never overflow (`ctsOf` is total); no stored sample is empty (invariant)
  simpa [moovPanics, ctsOf] using ⟨hinv.vdata, hinv.adata⟩

theorem Inv.vdur {m : Muxer} {h : AbsHist} (hinv : Inv m h) :
    (durationsOf m.w.vsRev.reverse m.w.vLastDelta).sum = trackDuration (h.video.map (·.dts.ticks)) := by
  rw [track_duration hinv.vtrack, dts_of_samples hinv.vsamples, List.reverse_reverse]

theorem Inv.adur {m : Muxer} {h : AbsHist} (hinv : Inv m h) :
    (durationsOf m.w.asRev.reverse m.w.aLastDelta).sum = trackDuration (h.audioPts.map (·.ticks)) := by
  rw [track_duration hinv.atrack, dts_of_samples hinv.asamples, List.reverse_reverse]

/-- in a state that satisfies the invariant, `finalize` reports no panic: its layout stage panics only on
    what `Inv.no_panic` excludes -/
theorem Inv.finalize_ne_panic {m : Muxer} {h : AbsHist} (hinv : Inv m h) :
    (m.w.finalize m.width m.height m.md m.fast).2.res ≠ .panic :=
  Muxide.finalize_ne_panic _ _ (moovPanics_of_true (hinv.no_panic m.width m.height).2 _)

/-- what a finish reply must satisfy against the violated preconditions -/
def GoodFin (vs : List Violation) (r : Reply) : Prop :=
  match r with
  | .stats _ => vs = []
  | .err e _ => ∃ v ∈ vs, v ∈ explains e.name
  | _ => False

/-- **finish_in_place_with_stats** (fault-free sink) -/
theorem C04_finishStats {m : Muxer} {h : AbsHist} (hinv : Inv m h) (hsz : NoSizeLimit m) :
    GoodFin (finishViolations h) (m.finishStats deliverAll).2.2 := by
  cases h0 : m.finished with
  | true =>
    rw [m.finishStats_finished _ h0]
    exact Good.err (i := none) (mem_f_finished _ (hinv.fin_of_finished h0))
  | false =>
    rw [m.finishStats_eq _ h0]
    have hnp := hinv.finalize_ne_panic
    show GoodFin _ (finishReply (.ok ()) (m.w.finalize m.width m.height m.md m.fast).2.res _)
    cases hf : m.w.finalized with
    | true =>
      rw [finalize_of_finalized _ _ _ _ _ hf]
      exact Good.err (e := .io) (i := none) (mem_f_finished _ (hinv.fin.trans hf))
    | false =>
      rw [finalize_of_fresh m.w m.width m.height m.md m.fast hf, hinv.vdur, hinv.adur] at hnp ⊢
      have gap := fun hg => (Good.err (e := .io) (i := none) (mem_f_gap h hg) :
        GoodFin (finishViolations h) (.err .io none))
      by_cases g1 : trackDuration (h.video.map (·.dts.ticks)) > u32Max ∨
          trackDuration (h.audioPts.map (·.ticks)) > u32Max
      · rw [if_pos g1]; exact gap (g1.imp_right .inl)
      by_cases g2 : m.width > 65535 ∨ m.height > 65535
      · rw [if_neg g1, if_pos g2]; exact gap (.inr (.inr (hinv.width ▸ hinv.height ▸ g2)))
      rw [if_neg g1, if_neg g2] at hnp ⊢
      -- the layout stage: no size error (hypothesis), no panic (invariant)
      cases hl : (layoutOut m.w m.width m.height m.md m.fast).res with
      | panic => exact absurd hl hnp
      | ioErr msg => exact absurd hl (hsz msg)
      | ok =>
        refine finishViolations_nil _ (hinv.fin.trans hf) ?_
        rw [hinv.width, hinv.height]
        exact fun hg => hg.elim (g1 ∘ .inl) fun hg => hg.elim (g1 ∘ .inr) g2

/-! ### the invariant is preserved -/

theorem videoErr_none {w : Writer} {pts dts : Nat} {d : Bytes} {k : Bool} (h : w.videoErr pts dts d k = none) :
    w.finalized = false ∧ (∀ p, w.vPrev = some p → p < dts) ∧ ¬ ctsBad pts dts := by
  obtain ⟨hf, -, hcts, hp, -⟩ := Writer.videoErr_none h
  exact ⟨hf, fun p hq => (hp p hq).1, hcts⟩

theorem videoPush_fields (w : Writer) (pts dts : Nat) (d : Bytes) (k : Bool) :
    let w' := w.videoPush pts dts d k
    w'.codec = w.codec ∧ w'.audio = w.audio ∧ w'.finalized = w.finalized ∧ w'.asRev = w.asRev ∧
    w'.aPrev = w.aPrev ∧ w'.aLastDelta = w.aLastDelta ∧ w'.vPrev = some dts ∧
    w'.vsRev = ⟨pts, dts, convertPayload w.codec d, k, none⟩ :: pushRev w.vsRev w.vPrev dts ∧
    w'.vLastDelta = pushLd w.vPrev w.vLastDelta dts := by
  obtain ⟨vc, e⟩ := w.videoPush_eq pts dts d k
  rw [e]; exact ⟨rfl, rfl, rfl, rfl, rfl, rfl, rfl, rfl, rfl⟩

theorem audioPush_fields (w : Writer) (pts : Nat) (sd : Bytes) :
    let w' := w.audioPush pts sd
    w'.codec = w.codec ∧ w'.audio = w.audio ∧ w'.finalized = w.finalized ∧ w'.vsRev = w.vsRev ∧
    w'.vPrev = w.vPrev ∧ w'.vLastDelta = w.vLastDelta ∧ w'.aPrev = some pts ∧
    w'.asRev = ⟨pts, pts, sd, false, none⟩ :: pushRev w.asRev w.aPrev pts ∧
    w'.aLastDelta = pushLd w.aPrev w.aLastDelta pts := by
  rw [w.audioPush_eq pts sd]; exact ⟨rfl, rfl, rfl, rfl, rfl, rfl, rfl, rfl, rfl⟩

theorem getD_head (l : List AbsVideo) (o : Option F64) (v : AbsVideo) (h : o = l.head?.map (·.pts)) :
    some (o.getD v.pts) = (l ++ [v]).head?.map (·.pts) := by
  cases l with
  | nil => simp [h]
  | cons a t => simp [h]

/-- pushing an accepted video frame (through either entry point) keeps the invariant -/
theorem Inv.push_video {m : Muxer} {h : AbsHist} (hinv : Inv m h) (pts dts : F64) (d : Bytes) (k : Bool)
    (lvd : Option F64) (hlvd : lvd = m.lastVideoDts ∨ lvd = some dts)
    (hd : d ≠ []) (hpf : pts.isFinite = true) (hpn : pts.isNeg = false)
    (hdf : dts.isFinite = true) (hdn : dts.isNeg = false)
    (he : m.w.videoErr pts.ticks dts.ticks d k = none) :
    Inv { m with w := m.w.videoPush pts.ticks dts.ticks d k,
                 firstVideoPts := some (m.firstVideoPts.getD pts),
                 lastVideoPts := some pts, lastVideoDts := lvd, vCount := m.vCount + 1 }
        { h with video := h.video ++ [⟨pts, dts⟩] } := by
  obtain ⟨-, e2, e3⟩ := videoErr_none he
  obtain ⟨vc, e⟩ := m.w.videoPush_eq pts.ticks dts.ticks d k
  rw [e]
  -- only the video track has changed: every other clause is that of `hinv`
  exact { hinv with
    vsamples := by
      rw [List.map_cons, map_pushRev _ (fun _ _ => rfl), hinv.vsamples]
      simp
    vtrack := trackOk_push hinv.vtrack ⟨pts.ticks, dts.ticks, _, k, none⟩ rfl fun p hp => Nat.le_of_lt (e2 p hp)
    vdata := List.forall_mem_cons.mpr
      ⟨convertPayload_ne_nil _ _ hd, (forall_mem_pushRev fun _ _ => Iff.rfl).mpr hinv.vdata⟩
    vcount := by simp [hinv.vcount]
    firstV := getD_head h.video m.firstVideoPts ⟨pts, dts⟩ hinv.firstV
    lastV := by simp
    lastDts := fun x hx => by
      rw [List.getLast?_concat]
      rcases hlvd with rfl | rfl
      · -- `write_video` leaves `last_video_dts` alone: it stays below the new newest decode time
        obtain ⟨xf, xn, p, hp, hle⟩ := hinv.lastDts x hx
        have := e2 p.dts.ticks (by rw [hinv.vPrev, hp]; rfl)
        exact ⟨xf, xn, _, rfl, Nat.le_of_lt (Nat.lt_of_le_of_lt hle this)⟩
      · cases hx
        exact ⟨hdf, hdn, _, rfl, Nat.le_refl _⟩
    vgood := List.forall_mem_append.mpr ⟨hinv.vgood, List.forall_mem_singleton.mpr ⟨hpf, hpn, hdf, hdn, e3⟩⟩ }

theorem wvPre_none {m : Muxer} {pts : F64} {d : Bytes} (h : m.wvPre pts d = none) :
    d ≠ [] ∧ pts.isFinite = true ∧ pts.isNeg = false :=
  let ⟨hd, ⟨pf, pn, _⟩, _⟩ := Muxer.wvPre_eq_none.mp h; ⟨hd, pf, pn⟩

theorem wvdPre_none {m : Muxer} {pts dts : F64} {d : Bytes} (h : m.wvdPre pts dts d = none) :
    d ≠ [] ∧ pts.isFinite = true ∧ pts.isNeg = false ∧ dts.isFinite = true ∧ dts.isNeg = false :=
  let ⟨_, hd, ⟨pf, pn, _⟩, ⟨df, dn, _⟩, _⟩ := Muxer.wvdPre_eq_none.mp h; ⟨hd, pf, pn, df, dn⟩

theorem waPre_none {m : Muxer} {pts : F64} {d : Bytes} (h : m.waPre pts d = none) :
    d ≠ [] ∧ pts.isFinite = true ∧ pts.isNeg = false :=
  let ⟨_, _, ⟨pf, pn, _⟩, hd, _⟩ := Muxer.waPre_eq_none.mp h; ⟨hd, pf, pn⟩

/-- the abstract history after a video call: extended exactly when the reply is `ok` -/
def histVideo (h : AbsHist) (r : Reply) (pts dts : F64) : AbsHist :=
  if r = .ok then { h with video := h.video ++ [⟨pts, dts⟩] } else h

def histAudio (h : AbsHist) (r : Reply) (pts : F64) : AbsHist :=
  if r = .ok then { h with audioPts := h.audioPts ++ [pts] } else h

theorem C04_inv_writeVideo {m : Muxer} {h : AbsHist} (hinv : Inv m h) (pts : F64) (d : Bytes) (k : Bool) :
    Inv (m.writeVideo pts d k).1 (histVideo h (m.writeVideo pts d k).2 pts pts) := by
  rcases m.writeVideo_cases pts d k with ⟨e, i, hr⟩ | ⟨hp, he, hr⟩ <;> rw [hr]
  · exact hinv
  · obtain ⟨hd, pf, pn⟩ := wvPre_none hp
    exact hinv.push_video pts pts d k m.lastVideoDts (.inl rfl) hd pf pn pf pn he

theorem C04_inv_writeVideoDts {m : Muxer} {h : AbsHist} (hinv : Inv m h) (pts dts : F64) (d : Bytes) (k : Bool) :
    Inv (m.writeVideoDts pts dts d k).1 (histVideo h (m.writeVideoDts pts dts d k).2 pts dts) := by
  rcases m.writeVideoDts_cases pts dts d k with ⟨e, i, hr⟩ | ⟨hp, he, hr⟩ <;> rw [hr]
  · exact hinv
  · obtain ⟨hd, pf, pn, df, dn⟩ := wvdPre_none hp
    exact hinv.push_video pts dts d k (some dts) (.inr rfl) hd pf pn df dn he

theorem audioErr_none {w : Writer} {pts : Nat} {d : Bytes} (h : w.audioErr pts d = none) (hd : d ≠ []) :
    w.finalized = false ∧ (∀ p, w.aPrev = some p → p ≤ pts) ∧ storedAudio w d ≠ [] := by
  obtain ⟨hf, ⟨tr, -, hp⟩, -, hprev⟩ := Writer.audioErr_none h
  obtain ⟨a, -, hs⟩ := audioPayload_spec (c := tr.codec) (fun hc => by rw [hc] at hp; cases hp) d
  rw [hp] at hs
  exact ⟨hf, fun p hp' => (hprev p hp').1, hs.2.2 hd⟩

theorem Inv.push_audio {m : Muxer} {h : AbsHist} (hinv : Inv m h) (pts : F64) (d : Bytes)
    (hd : d ≠ []) (hpf : pts.isFinite = true) (hpn : pts.isNeg = false)
    (he : m.w.audioErr pts.ticks d = none) :
    Inv (m.pushAudio pts d) { h with audioPts := h.audioPts ++ [pts] } := by
  obtain ⟨-, e2, e3⟩ := audioErr_none he hd
  unfold Muxer.pushAudio
  rw [Writer.audioPush_eq]
  exact { hinv with
    asamples := by
      rw [List.map_cons, map_pushRev _ (fun _ _ => rfl), hinv.asamples]
      simp
    atrack := trackOk_push hinv.atrack ⟨pts.ticks, pts.ticks, _, false, none⟩ rfl e2
    adata := List.forall_mem_cons.mpr ⟨e3, (forall_mem_pushRev fun _ _ => Iff.rfl).mpr hinv.adata⟩
    acount := by simp [hinv.acount]
    lastA := by simp
    agood := List.forall_mem_append.mpr ⟨hinv.agood, List.forall_mem_singleton.mpr ⟨hpf, hpn⟩⟩ }

theorem C04_inv_writeAudio {m : Muxer} {h : AbsHist} (hinv : Inv m h) (pts : F64) (d : Bytes) :
    Inv (m.writeAudio pts d).1 (histAudio h (m.writeAudio pts d).2 pts) := by
  rcases m.writeAudio_cases pts d with ⟨e, i, hr⟩ | ⟨hp, he, hr⟩ <;> rw [hr]
  · exact hinv
  · obtain ⟨hd, pf, pn⟩ := waPre_none hp
    exact hinv.push_audio pts d hd pf pn he

/-- the abstract history after any finish call -/
def histFinish (h : AbsHist) : AbsHist := { h with finishAttempted := true }

theorem finalize_fst (w : Writer) (W H : Nat) (md : Option Metadata) (fast : Bool) :
    (w.finalize W H md fast).1 = { w with finalized := true } :=
  Muxide.finalize_fst w W H md fast

theorem C04_inv_finishStats {m : Muxer} {h : AbsHist} (hinv : Inv m h) :
    Inv (m.finishStats deliverAll).1 (histFinish h) := by
  cases h0 : m.finished with
  | true =>
    rw [m.finishStats_finished _ h0]
    exact { hinv with fin := (hinv.finished h0).symm }
  | false =>
    rw [m.finishStats_eq _ h0]
    dsimp only
    rw [Muxide.finalize_fst]
    exact { hinv with fin := rfl, finished := fun _ => rfl }

theorem C04_inv_finish {m : Muxer} {h : AbsHist} (hinv : Inv m h) :
    Inv (m.finish deliverAll).1 (histFinish h) := by
  rw [Muxer.finish_eq]; exact C04_inv_finishStats hinv

/-! ### the statements of C04 -/

theorem Good.ok_iff {vs : List Violation} {r : Reply} (h : Good vs r) : r = .ok ↔ vs = [] := by
  cases r with
  | ok => exact ⟨fun _ => h, fun _ => rfl⟩
  | err e i =>
    obtain ⟨v, hv, _⟩ := h
    exact ⟨nofun, fun hh => by rw [hh] at hv; cases hv⟩
  | stats s => exact h.elim
  | panic => exact h.elim

theorem Good.explains {vs : List Violation} {e : MErr} {i : Option Nat} (h : Good vs (.err e i)) :
    ∃ v ∈ vs, v ∈ explains e.name := h

theorem GoodFin.stats_iff {vs : List Violation} {r : Reply} (h : GoodFin vs r) : (∃ s, r = .stats s) ↔ vs = [] := by
  cases r with
  | stats s => exact ⟨fun _ => h, fun _ => ⟨s, rfl⟩⟩
  | err e i =>
    obtain ⟨v, hv, _⟩ := h
    exact ⟨nofun, fun hh => by rw [hh] at hv; cases hv⟩
  | ok => exact h.elim
  | panic => exact h.elim

/-- **C04, write_video**: success exactly when no documented precondition is violated.
    Hypotheses: `hsplit` (the model's NAL scanner computes the declarative Annex B split — assumed,
    proved elsewhere), `IsDouble pts` (the argument is a genuine 64-bit double) and `VideoSizeOk`
    (the converted payload fits the 32-bit sample size field). -/
theorem C04_video_iff (hsplit : ∀ d, nals d = splitAnnexB d) {m : Muxer} {h : AbsHist} (hinv : Inv m h)
    (pts : F64) (d : Bytes) (k : Bool) (hc : IsDouble pts) (hsize : VideoSizeOk m d) :
    (m.writeVideo pts d k).2 = .ok ↔ videoViolations h true pts pts d k = [] :=
  (C04_video hsplit hinv pts d k hc hsize).ok_iff

theorem C04_videoDts_iff (hsplit : ∀ d, nals d = splitAnnexB d) {m : Muxer} {h : AbsHist} (hinv : Inv m h)
    (pts dts : F64) (d : Bytes) (k : Bool) (hc : IsDouble pts) (hcd : IsDouble dts) (hsize : VideoSizeOk m d) :
    (m.writeVideoDts pts dts d k).2 = .ok ↔ videoViolations h false pts dts d k = [] :=
  (C04_videoDts hsplit hinv pts dts d k hc hcd hsize).ok_iff

theorem C04_audio_iff {m : Muxer} {h : AbsHist} (hinv : Inv m h)
    (pts : F64) (d : Bytes) (hc : IsDouble pts) (hsize : AudioSizeOk d) :
    (m.writeAudio pts d).2 = .ok ↔ audioViolations h pts d = [] :=
  (C04_audio hinv pts d hc hsize).ok_iff

theorem C04_finish_iff {m : Muxer} {h : AbsHist} (hinv : Inv m h) (hsz : NoSizeLimit m) :
    (∃ s, (m.finishStats deliverAll).2.2 = .stats s) ↔ finishViolations h = [] :=
  (C04_finishStats hinv hsz).stats_iff

/-- `finish_in_place` replies `ok` where `finish_in_place_with_stats` replies the statistics -/
theorem finish_reply (m : Muxer) :
    (m.finish deliverAll).2.2 = (match (m.finishStats deliverAll).2.2 with | .stats _ => .ok | r => r) := by
  rw [Muxer.finish_eq]
  cases (m.finishStats deliverAll).2.2 <;> rfl

theorem C04_finish {m : Muxer} {h : AbsHist} (hinv : Inv m h) (hsz : NoSizeLimit m) :
    Good (finishViolations h) (m.finish deliverAll).2.2 := by
  have hg := C04_finishStats hinv hsz
  rw [Muxer.finish_eq]
  cases hr : (m.finishStats deliverAll).2.2 <;> rw [hr] at hg <;> first | exact hg | exact hg.elim

theorem C04_finish_ok_iff {m : Muxer} {h : AbsHist} (hinv : Inv m h) (hsz : NoSizeLimit m) :
    (m.finish deliverAll).2.2 = .ok ↔ finishViolations h = [] :=
  (C04_finish hinv hsz).ok_iff

/-- **C04, errors are explained**: an error reply names a precondition this very call violated -/
theorem C04_err_explains_video (hsplit : ∀ d, nals d = splitAnnexB d) {m : Muxer} {h : AbsHist} (hinv : Inv m h)
    (pts : F64) (d : Bytes) (k : Bool) (hc : IsDouble pts) (hsize : VideoSizeOk m d) (e : MErr) (i : Option Nat)
    (hr : (m.writeVideo pts d k).2 = .err e i) :
    ∃ v ∈ videoViolations h true pts pts d k, v ∈ explains e.name :=
  (hr ▸ C04_video hsplit hinv pts d k hc hsize).explains

theorem C04_err_explains_videoDts (hsplit : ∀ d, nals d = splitAnnexB d) {m : Muxer} {h : AbsHist} (hinv : Inv m h)
    (pts dts : F64) (d : Bytes) (k : Bool) (hc : IsDouble pts) (hcd : IsDouble dts) (hsize : VideoSizeOk m d)
    (e : MErr) (i : Option Nat) (hr : (m.writeVideoDts pts dts d k).2 = .err e i) :
    ∃ v ∈ videoViolations h false pts dts d k, v ∈ explains e.name :=
  (hr ▸ C04_videoDts hsplit hinv pts dts d k hc hcd hsize).explains

theorem C04_err_explains_audio {m : Muxer} {h : AbsHist} (hinv : Inv m h)
    (pts : F64) (d : Bytes) (hc : IsDouble pts) (hsize : AudioSizeOk d) (e : MErr) (i : Option Nat)
    (hr : (m.writeAudio pts d).2 = .err e i) :
    ∃ v ∈ audioViolations h pts d, v ∈ explains e.name :=
  (hr ▸ C04_audio hinv pts d hc hsize).explains

theorem C04_err_explains_finishStats {m : Muxer} {h : AbsHist} (hinv : Inv m h) (hsz : NoSizeLimit m)
    (e : MErr) (i : Option Nat) (hr : (m.finishStats deliverAll).2.2 = .err e i) :
    ∃ v ∈ finishViolations h, v ∈ explains e.name := by
  have := C04_finishStats hinv hsz
  rw [hr] at this; exact this

theorem C04_err_explains_finish {m : Muxer} {h : AbsHist} (hinv : Inv m h) (hsz : NoSizeLimit m)
    (e : MErr) (i : Option Nat) (hr : (m.finish deliverAll).2.2 = .err e i) :
    ∃ v ∈ finishViolations h, v ∈ explains e.name :=
  (hr ▸ C04_finish hinv hsz).explains

/-! ### the convenience forms: same decisions as the calls they wrap -/

theorem encodeVideo_reply (m : Muxer) (d : Bytes) (ms : Nat) :
    (m.encodeVideo d ms).2 = (m.writeVideo m.curV d (m.isKeyframe d)).2 := by
  rw [Muxer.encodeVideo_eq]

theorem encodeAudio_reply (m : Muxer) (d : Bytes) (n : Nat) (a : AudioTrack) (ha : m.audioTrack = some a) :
    (m.encodeAudio d n).2 = (m.writeAudio m.curA d).2 := by
  rw [Muxer.encodeAudio_eq m d n a ha]

theorem C04_inv_encodeVideo {m : Muxer} {h : AbsHist} (hinv : Inv m h) (d : Bytes) (ms : Nat) :
    Inv (m.encodeVideo d ms).1 (histVideo h (m.encodeVideo d ms).2 m.curV m.curV) := by
  have := C04_inv_writeVideo hinv m.curV d (m.isKeyframe d)
  rw [Muxer.encodeVideo_eq]
  dsimp only
  split
  · exact { this with }
  · exact this

theorem C04_inv_encodeAudio {m : Muxer} {h : AbsHist} (hinv : Inv m h) (d : Bytes) (n : Nat) :
    Inv (m.encodeAudio d n).1 (histAudio h (m.encodeAudio d n).2 m.curA) := by
  cases ha : m.audioTrack with
  | none => rw [m.encodeAudio_none d n ha]; exact hinv
  | some a =>
    have := C04_inv_writeAudio hinv m.curA d
    rw [Muxer.encodeAudio_eq m d n a ha]
    dsimp only
    split
    · exact { this with }
    · exact this

/-- `encode_video` decides like `write_video` at the running timestamp (when that is a double) -/
theorem C04_encodeVideo (hsplit : ∀ d, nals d = splitAnnexB d) {m : Muxer} {h : AbsHist} (hinv : Inv m h)
    (d : Bytes) (ms : Nat) (hc : IsDouble m.curV) (hsize : VideoSizeOk m d) :
    Good (videoViolations h true m.curV m.curV d (m.isKeyframe d)) (m.encodeVideo d ms).2 := by
  rw [encodeVideo_reply]; exact C04_video hsplit hinv _ d _ hc hsize

theorem C04_encodeAudio {m : Muxer} {h : AbsHist} (hinv : Inv m h)
    (d : Bytes) (n : Nat) (hc : IsDouble m.curA) (hsize : AudioSizeOk d) :
    Good (audioViolations h m.curA d) (m.encodeAudio d n).2 := by
  cases ha : m.audioTrack with
  | none =>
    rw [m.encodeAudio_none d n ha]
    exact .err (mem_a_notConfigured _ _ _ (by rw [hinv.audio, ← hinv.audioTrack, ha]; rfl))
  | some a => rw [encodeAudio_reply m d n a ha]; exact C04_audio hinv _ d hc hsize

/-! ### any sequence of calls -/

open Muxide.Props.C05 in
/-- the abstract history after one call of the progressive API (`Call`, `step` as in C05) -/
def absStep (h : AbsHist) (m : Muxer) (c : Call) (r : Reply) : AbsHist :=
  match c with
  | .wv pts _ _ => histVideo h r pts pts
  | .wvd pts dts _ _ => histVideo h r pts dts
  | .wa pts _ => histAudio h r pts
  | .ev _ _ => histVideo h r m.curV m.curV
  | .ea _ _ => histAudio h r m.curA
  | .fin | .fins => histFinish h

open Muxide.Props.C05 in
/-- **the invariant is preserved by every call**: the history gains the frame exactly when the
    reply is `ok`, and `finishAttempted` is set by any finish call -/
theorem C04_inv_step {m : Muxer} {h : AbsHist} (hinv : Inv m h) (c : Call) :
    Inv (step m c).1 (absStep h m c (step m c).2) := by
  cases c with
  | wv pts d k => exact C04_inv_writeVideo hinv pts d k
  | wvd pts dts d k => exact C04_inv_writeVideoDts hinv pts dts d k
  | wa pts d => exact C04_inv_writeAudio hinv pts d
  | ev d ms => exact C04_inv_encodeVideo hinv d ms
  | ea d n => exact C04_inv_encodeAudio hinv d n
  | fin => exact C04_inv_finish hinv
  | fins => exact C04_inv_finishStats hinv

open Muxide.Props.C05 in
/-- the abstract history after a whole call sequence -/
def absRun : AbsHist → Muxer → List Call → AbsHist
  | h, _, [] => h
  | h, m, c :: cs => absRun (absStep h m c (step m c).2) (step m c).1 cs

open Muxide.Props.C05 in
/-- at any point of any call sequence the muxer state is related to the abstract history of the
    calls accepted so far — so the `iff` / `err_explains` theorems apply to the next call -/
theorem C04_inv_run {m : Muxer} {h : AbsHist} (hinv : Inv m h) (cs : List Call) :
    Inv (run m cs).1 (absRun h m cs) := by
  induction cs generalizing m h with
  | nil => exact hinv
  | cons c cs ih => exact ih (C04_inv_step hinv c)

open Muxide.Props.C05 in
theorem C04_inv_from_build (cfg : Config) (cs : List Call) :
    Inv (run (build cfg) cs).1 (absRun (initHist cfg) (build cfg) cs) :=
  C04_inv_run (C04_inv_init cfg) cs

/-! ### the residual hypotheses are satisfiable, and necessary -/

/-- standard layout: the size hypothesis is just "`ftyp` (24 bytes) + `mdat` header (8 bytes) +
    media payload fits 32 bits", which excludes both the `mdat` box-size error and the
    chunk-offset error of the A/V layout -/
theorem noSizeLimit_standard (m : Muxer) (hfast : m.fast = false)
    (hp : ftypLen + 8 + ((m.w.vsRev.reverse.map (·.data.length)).sum +
      (m.w.asRev.reverse.map (·.data.length)).sum) ≤ u32Max) :
    NoSizeLimit m := by
  intro msg
  rw [hfast, layoutOut_false]
  exact finalizeStandard_ne_ioErr _ _ _ _ (Nat.le_trans (Nat.add_le_add_left (payloadLen_le_queuedLen m.w) _) hp) msg

example : NoSizeLimit (build ⟨.vp9, 640, 480, none, none, false⟩) :=
  noSizeLimit_standard _ rfl (by decide)
example : IsDouble (F64.ofBits 0x3FF8000000000000) := F64.canon_ofBits _
example : VideoSizeOk (build ⟨.vp9, 640, 480, none, none, false⟩) [0x49, 0x83, 0x42, 0, 0, 1, 1, 0] := by
  unfold VideoSizeOk; decide
example : AudioSizeOk [1, 2, 3] := by unfold AudioSizeOk; decide

/-- `IsDouble` cannot be dropped: on this unnormalised triple (54-bit significand) the model's
    `ticks_representable` and the exact range test of the specification disagree -/
theorem C04_nondouble_counterexample :
    ticksRepresentable (.fin false 13117684674637903 (-6)) = false ∧
    tickInRange (.fin false 13117684674637903 (-6)) = true := by decide

/-- The former straddle defect (PTS = 2^63 ticks, DTS = 2^63 − 1024 ticks accepted, then `finish`
    panicked on `pts as i64 - dts as i64`) is repaired in /repo (`fix:` "composition offsets are
    computed without i64 overflow"): on the same input the model now finishes with statistics. -/
theorem C04_straddle_repaired :
    let cfg : Config := { codec := .vp9, width := 640, height := 480, audio := none, md := none, fast := false }
    let fr : Bytes := [0x49, 0x83, 0x42, 0, 0, 1, 1, 0]
    let pHi := F64.ofBits 4816403244369008680
    let pLo := F64.ofBits 4816403244369008679
    let m1 := (build cfg).writeVideoDts pHi pLo fr true
    m1.2 = .ok ∧ (m1.1.finishStats deliverAll).2.2 ≠ .panic ∧
      (match (m1.1.finishStats deliverAll).2.2 with | .stats _ => true | _ => false) = true := by
  decide +kernel

/-! ### the scanner hypothesis discharged

`hsplit` is `Muxide.Props.C14.C14_split`; the video theorems above therefore hold without it. -/
theorem C04_video_iff_full {m : Muxer} {h : AbsHist} (hinv : Inv m h)
    (pts : F64) (d : Bytes) (k : Bool) (hc : IsDouble pts) (hsize : VideoSizeOk m d) :
    (m.writeVideo pts d k).2 = .ok ↔ videoViolations h true pts pts d k = [] :=
  C04_video_iff Muxide.Props.C14.C14_split hinv pts d k hc hsize

theorem C04_videoDts_iff_full {m : Muxer} {h : AbsHist} (hinv : Inv m h)
    (pts dts : F64) (d : Bytes) (k : Bool) (hc : IsDouble pts) (hcd : IsDouble dts) (hsize : VideoSizeOk m d) :
    (m.writeVideoDts pts dts d k).2 = .ok ↔ videoViolations h false pts dts d k = [] :=
  C04_videoDts_iff Muxide.Props.C14.C14_split hinv pts dts d k hc hcd hsize

end Muxide.Props.C04
