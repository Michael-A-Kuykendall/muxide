import Muxide.Generated.Builders
import Muxide.Lemmas.Box
import Muxide.Lemmas.Records
/-
  C19 (mechanical tie) — the definitions of Muxide.Generated.Builders are produced by tools/rs2lean.py
  from the Rust source of the fixed-layout box builders on every check run.  Each theorem states that the
  translated Rust function is, byte for byte and for all arguments, the serialisation of the hand-written
  model's box.  The strict-decoder theorems of Props/C19.lean are about the model's boxes; through these
  equalities they are about what the translated source builds.
-/
namespace Muxide.Props.C19Generated
open Muxide Muxide.Box Muxide.Generated Muxide.Generated.Mp4

/-! ### what the translated source spells differently: `as uN` casts, `build_box` -/

/-- an `as u32` before `to_be_bytes` is invisible (see `Muxide.u32be_mod`) -/
theorem u32be_mod (n : Nat) : u32be (n % 2 ^ 32) = u32be n := (Muxide.u32be_mod n).symm

theorem u8_mod (n : Nat) : u8' (n % 2 ^ 8) = u8 n := Muxide.u8_mod n

/-- the right sides are `buildBox (ascii t) payload` unfolded -/
theorem ser_leaf (t : String) (p : Bytes) : (leaf t p).ser = u32be (8 + p.length) ++ ascii t ++ p := by
  simp [leaf, ser, sers, sizes]

theorem leaf_ser_length (t : String) (p : Bytes) (h : (ascii t).length = 4) :
    (leaf t p).ser.length = (leaf t p).size :=
  ser_len_shape (sc := fun _ => none) _ (shape_leaf t p h rfl)

theorem node1_ser (t : String) (pre : Bytes) (k : Box) (hk : k.ser.length = k.size) :
    (node t pre [k]).ser = u32be (8 + (pre ++ k.ser).length) ++ ascii t ++ (pre ++ k.ser) := by
  simp only [node, ser, sers, sizes, List.length_append, hk, Nat.add_zero, List.append_nil, List.append_assoc, Nat.add_assoc]

/-! ### src/muxer/mp4.rs -/

theorem C19_gen_url : build_url_box = bUrl.ser := by
  rw [bUrl, ser_leaf]; rfl

theorem C19_gen_vmhd : build_vmhd_box = bVmhd.ser := by
  rw [bVmhd, ser_leaf]; rfl

theorem C19_gen_smhd : build_smhd_box = bSmhd.ser := by
  rw [bSmhd, ser_leaf]; rfl

theorem C19_gen_ftyp : build_ftyp_box = bFtyp.ser := by
  rw [bFtyp, ser_leaf]; rfl

theorem C19_gen_hdlr_video : build_hdlr_box = (bHdlr "vide" "VideoHandler").ser := by
  rw [bHdlr, ser_leaf]; rfl

theorem C19_gen_hdlr_sound : build_sound_hdlr_box = (bHdlr "soun" "SoundHandler").ser := by
  rw [bHdlr, ser_leaf]; rfl

theorem C19_gen_hdlr_meta : build_meta_hdlr_box = bMetaHdlr.ser := by
  rw [bMetaHdlr, ser_leaf]; rfl

theorem C19_gen_dref : build_dref_box = bDref.ser := by
  rw [bDref, node1_ser _ _ bUrl (leaf_ser_length _ _ rfl), ← C19_gen_url]; rfl

theorem C19_gen_dinf : build_dinf_box = bDinf.ser := by
  rw [bDinf, node1_ser _ _ bDref (by decide), ← C19_gen_dref]; rfl

/-- `build_mvhd_payload(duration_ms, next_track_id)` is the payload of the model's mvhd, for all arguments -/
theorem C19_gen_mvhd (d n : Nat) : build_mvhd_payload d n = (bMvhd d n).pre := by
  simp only [build_mvhd_payload, bMvhd, leaf, pre, matrixBytes, List.nil_append, List.append_assoc]
  rfl

/-- `build_tkhd_box_with_id`: `width << 16` / `height << 16` on `u32` lose their high bits exactly as the
    model's `u32be (width * 2^16)` does -/
theorem C19_gen_tkhd (id vol w h d : Nat) : build_tkhd_box_with_id id vol w h d = (bTkhd id vol w h d).ser := by
  rw [bTkhd, ser_leaf]
  simp only [build_tkhd_box_with_id, u32be_mod]
  rfl

/-- `build_stsc_box` (both branches), for `u32` arguments -/
theorem C19_gen_stsc (spc cc : Nat) (hcc : cc < 2 ^ 32) : build_stsc_box spc cc = (bStsc spc cc).ser := by
  unfold build_stsc_box bStsc
  rw [Nat.mod_eq_of_lt hcc]
  split
  · rw [ser_leaf]; rfl
  · rw [ser_leaf]
    simp only [buildBox, List.nil_append, List.append_assoc]
    rfl

/-! ### the AAC sample entry: AudioSpecificConfig, esds, mp4a -/

theorem asc_bits : ∀ s, s < 13 → ∀ c, c < 16 →
    ((2 * 2 ^ 3 % 2 ^ 8) ||| (s / 2 ^ 1)) = 2 * 8 + s / 2 ∧
    (((s &&& 1) * 2 ^ 7 % 2 ^ 8) ||| (c * 2 ^ 3 % 2 ^ 8)) = (s % 2) * 128 + c * 8 := by decide

theorem chan_bits : ∀ x, x < 16 → ((x % 2 ^ 8) &&& 15) = x % 16 := by decide

theorem ite_le {c : Prop} [Decidable c] {a b n : Nat} (ha : a ≤ n) (hb : b ≤ n) : (if c then a else b) ≤ n :=
  Muxide.ite_le ha hb

theorem sfiOf_lt (r : Nat) : sfiOf r < 13 := Muxide.sfiOf_lt r

/-- `build_audio_specific_config(sample_rate, channels)` = the model's AudioSpecificConfig bytes -/
theorem C19_gen_asc (r ch : Nat) : build_audio_specific_config r ch = ascBytes r ch := by
  have hs := Muxide.sfiOf_lt r
  have hc : min ch 15 < 16 := by omega
  obtain ⟨h1, h2⟩ := asc_bits (sfiOf r) hs (min ch 15 % 16) (by omega)
  have hx := chan_bits (min ch 15) hc
  unfold build_audio_specific_config ascBytes
  simp only []
  show [u8' ((2 * 2 ^ 3 % 2 ^ 8) ||| (sfiOf r / 2 ^ 1)),
        u8' ((((sfiOf r &&& 1) * 2 ^ 7 % 2 ^ 8)) ||| ((((min ch 15) % 2 ^ 8) &&& 15) * 2 ^ 3 % 2 ^ 8))] = _
  rw [hx, h1, h2]
  rfl

/-- `build_esds_box` = the model's esds (descriptor lengths as `len() as u8`) -/
theorem C19_gen_esds (a : AudioTrack) : build_esds_box a.sampleRate a.channels = (bEsds a).ser := by
  rw [bEsds, ser_leaf]
  simp only [build_esds_box, C19_gen_asc, u8_mod, List.map]
  rfl

/-- `build_mp4a_box` = the model's mp4a sample entry with its esds child -/
theorem C19_gen_mp4a (a : AudioTrack) : build_mp4a_box a.sampleRate a.channels = (bMp4a a).ser := by
  rw [bMp4a, node1_ser _ _ (bEsds a) (leaf_ser_length _ _ rfl)]
  simp only [build_mp4a_box, C19_gen_esds, u32be_mod]
  rfl

/-! ### src/fragmented.rs -/

theorem C19_gen_f_ftyp : Frag.build_ftyp_fmp4 = fFtyp.ser := by
  rw [fFtyp, ser_leaf]; rfl

theorem C19_gen_f_mvhd (ts : Nat) : Frag.build_mvhd_fmp4 ts = (fMvhd ts).ser := by
  rw [fMvhd, ser_leaf]
  simp only [Frag.build_mvhd_fmp4]
  rfl

theorem C19_gen_f_mvex : Frag.build_mvex = fMvex.ser := by
  rw [fMvex, node1_ser _ _ fTrex (leaf_ser_length _ _ rfl), fTrex, ser_leaf]; rfl

theorem C19_gen_f_vmhd : Frag.build_vmhd = fVmhd.ser := by
  rw [fVmhd, ser_leaf]; rfl

theorem C19_gen_f_dinf : Frag.build_dinf = fDinf.ser := by
  rw [fDinf, node1_ser _ _ _ (by decide)]; rfl

theorem C19_gen_f_hdlr : Frag.build_hdlr_video = (bHdlr "vide" "VideoHandler").ser := by
  rw [bHdlr, ser_leaf]; rfl

/-- the four empty sample tables of the init segment's stbl -/
theorem C19_gen_f_empty_tables :
    Frag.build_empty_stts = (leaf "stts" (u32be 0 ++ u32be 0)).ser ∧
    Frag.build_empty_stsc = (leaf "stsc" (u32be 0 ++ u32be 0)).ser ∧
    Frag.build_empty_stsz = (leaf "stsz" (u32be 0 ++ u32be 0 ++ u32be 0)).ser ∧
    Frag.build_empty_stco = (leaf "stco" (u32be 0 ++ u32be 0)).ser := by
  refine ⟨?_, ?_, ?_, ?_⟩ <;> (rw [ser_leaf]; rfl)

theorem C19_gen_f_mfhd (seq : Nat) : Frag.build_mfhd seq = (fMfhd seq).ser := by
  rw [fMfhd, ser_leaf]; rfl

theorem C19_gen_f_tfhd : Frag.build_tfhd = fTfhd.ser := by
  rw [fTfhd, ser_leaf]; rfl

theorem C19_gen_f_tfdt (base : Nat) : Frag.build_tfdt base = (fTfdt base).ser := by
  rw [fTfdt, ser_leaf]; rfl

end Muxide.Props.C19Generated
