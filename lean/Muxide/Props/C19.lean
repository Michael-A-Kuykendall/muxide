import Muxide.Lemmas.E2E
/-
  C19 — every fixed-layout header box and decoder-configuration record the library emits has the
  size, version, reserved-bit values and field positions prescribed by its defining specification:
  the strict decoders of Muxide.Spec.Strict (written from ISO/IEC 14496-12) recover the configured
  values from the builders' payloads.  Two recorded non-conformances of the progressive writer
  (`tkhd` has a stray 32-bit word, `vmhd` has flags 0) are stated as counterexample theorems with
  the part of the layout that IS correct.
  (The decoder-configuration records avcC / hvcC / av1C / vpcC / esds / dOps are in Props/C07.lean.)
  Helper lemmas live in Muxide/Lemmas/Records.lean.
-/
namespace Muxide.Props.C19
open Muxide Muxide.Spec Box

/- The strict decoders walk through the builders' payloads field by field (see Lemmas/Records.lean). -/
open RecordSimp

/-! ## 1. movie header -/

/-- without range hypotheses the layout is still conformant; the two fields hold the values mod 2^32 -/
theorem C19_mvhd_wrap (d n : Nat) :
    strictMvhd (bMvhd d n).pre = some ⟨1000, d % 2^32, n % 2^32⟩ := by
  simp [bMvhd, leaf, Box.pre, strictMvhd]

/-- progressive writer: timescale 1000, the given duration and next-track id -/
theorem C19_mvhd (d n : Nat) (hd : d < 2^32) (hn : n < 2^32) :
    strictMvhd (bMvhd d n).pre = some ⟨1000, d, n⟩ := by
  rw [C19_mvhd_wrap, Nat.mod_eq_of_lt hd, Nat.mod_eq_of_lt hn]

/-- fragmented muxer: the configured timescale, duration 0, next-track id 2 -/
theorem C19_fmvhd (ts : Nat) (h : ts < 2^32) : strictMvhd (fMvhd ts).pre = some ⟨ts, 0, 2⟩ := by
  simp [fMvhd, leaf, Box.pre, strictMvhd, Nat.mod_eq_of_lt h]

/-! ## 2. media header -/

theorem C19_mdhd (ts dur : Nat) (lang : Option (List Nat)) (h1 : ts < 2^32) (h2 : dur < 2^32) :
    strictMdhd (bMdhd ts dur lang).pre = some ⟨ts, dur, langCode (lang.getD [117, 110, 100])⟩ := by
  have hl := langCode_lt (lang.getD [117, 110, 100])
  simp [bMdhd, leaf, Box.pre, strictMdhd, Nat.mod_eq_of_lt h1, Nat.mod_eq_of_lt h2,
    Nat.mod_eq_of_lt (Nat.lt_trans hl (by decide : 2^15 < 2^16)), hl]

/-- the tracks of the progressive writer: media timescale 90 000 -/
theorem C19_mdhd_90k (dur : Nat) (lang : Option (List Nat)) (h : dur < 2^32) :
    strictMdhd (bMdhd 90000 dur lang).pre = some ⟨90000, dur, langCode (lang.getD [117, 110, 100])⟩ :=
  C19_mdhd 90000 dur lang (by omega) h

/-- default language: "und" = 0x55C4 -/
example : langCode [117, 110, 100] = 0x55C4 := by decide

/-! ## 3. handler, media-information headers, data information, fragmented tkhd / trex -/

theorem C19_hdlr :
    strictHdlr (bHdlr "vide" "VideoHandler").pre = some (tag "vide") ∧
    strictHdlr (bHdlr "soun" "SoundHandler").pre = some (tag "soun") := by
  constructor <;> decide

theorem C19_smhd : strictSmhd bSmhd.pre = true := by decide

theorem C19_dinf : strictDinf bDinf = true := by decide

theorem C19_fdinf : strictDinf fDinf = true := by decide

theorem C19_fvmhd : strictVmhd fVmhd.pre = true := by decide

/-- fragmented tkhd: flags 3 (enabled | in_movie), track id 1, duration 0, volume 0, identity
    matrix, 16.16 width and height -/
theorem C19_ftkhd_wrap (c : FragConfig) :
    strictTkhd (fTkhd c).pre = some ⟨3, 1, 0, 0, c.width * 2^16 % 2^32, c.height * 2^16 % 2^32⟩ := by
  simp [fTkhd, leaf, Box.pre, strictTkhd]
  -- version and flags are sub-fields of the first word, `u32be 3`
  decide

/-- for dimensions that fit 16 bits the 16.16 values are exact -/
theorem C19_ftkhd (c : FragConfig) (hw : c.width < 2^16) (hh : c.height < 2^16) :
    strictTkhd (fTkhd c).pre = some ⟨3, 1, 0, 0, c.width * 65536, c.height * 65536⟩ := by
  rw [C19_ftkhd_wrap, fixed16_exact _ hw, fixed16_exact _ hh]

theorem C19_trex : strictTrex fTrex.pre = some 1 := by decide

/-! ## 4. sample entries -/

theorem C19_visual_entry (w h : Nat) (hw : w < 2^16) (hh : h < 2^16) :
    strictVisualEntry (visualEntryPrefix w h) = some ⟨w, h⟩ := by
  rw [strictVisualEntry_prefix, Nat.mod_eq_of_lt hw, Nat.mod_eq_of_lt hh]

theorem C19_fvisual_entry (c : FragConfig) (hw : c.width < 2^16) (hh : c.height < 2^16) :
    strictVisualEntry (fEntryPrefix c) = some ⟨c.width, c.height⟩ :=
  fEntryPrefix_eq c ▸ C19_visual_entry _ _ hw hh

/-- every video sample entry of either muxer carries this prefix -/
theorem C19_video_entry_pre (w h : Nat) (vc : VideoConfig) (c : FragConfig) :
    (bVideoEntry w h vc).pre = visualEntryPrefix w h ∧ (fSampleEntry c).pre = fEntryPrefix c := by
  constructor
  · cases vc <;> rfl
  · simp only [fSampleEntry, apply_ite Box.pre, Box.pre_node, ite_self]

theorem C19_audio_entry (ch r : Nat) (hc : ch < 2^16) (hr : r < 2^32) :
    strictAudioEntry (audioEntryPrefix ch r) = some ⟨ch, 16, r⟩ := by
  rw [strictAudioEntry_prefix, Nat.mod_eq_of_lt hc, Nat.mod_eq_of_lt hr]

/-! ## 5. recorded non-conformances of the progressive writer -/

/-- FINDING (pinned by the repository's golden test): the progressive `tkhd` payload has 88 bytes —
    a stray 32-bit zero after the duration — so no strict reader accepts it, whatever the inputs -/
theorem C19_tkhd_counterexample (id vol w h dur : Nat) :
    strictTkhd (bTkhd id vol w h dur).pre = none := by
  have hl : (bTkhd id vol w h dur).pre.length = 88 := by simp [bTkhd, leaf, Box.pre]
  simp [strictTkhd, hl]

/-- what the progressive `tkhd` does place correctly: version 0, track id at 12, duration at 20;
    and, displaced by 4 bytes from their standard offsets, volume at 40, the identity matrix at 44,
    16.16 width at 80 and height at 84; everything else zero. Its flags are 0 (the standard asks
    for track_enabled | track_in_movie = 3 — second part of the finding). -/
theorem C19_tkhd_partial (id vol w h dur : Nat) (hid : id < 2^32) (hvol : vol < 2^16)
    (hw : w < 2^16) (hh : h < 2^16) (hdur : dur < 2^32) :
    let p := (bTkhd id vol w h dur).pre
    p.length = 88 ∧ be p 0 1 = 0 ∧ be p 1 3 = 0 ∧ allZero p 4 8 = true ∧ be p 12 4 = id ∧
    allZero p 16 4 = true ∧ be p 20 4 = dur ∧ allZero p 24 16 = true ∧ be p 40 2 = vol ∧
    allZero p 42 2 = true ∧ identityMatrix p 44 = true ∧ be p 80 4 = w * 65536 ∧ be p 84 4 = h * 65536 := by
  simp [bTkhd, leaf, Box.pre, Nat.mod_eq_of_lt hid, Nat.mod_eq_of_lt hvol, Nat.mod_eq_of_lt hdur,
    fixed16_exact _ hw, fixed16_exact _ hh]

/-- FINDING: the progressive `vmhd` has flags 0; ISO/IEC 14496-12 12.1.2 requires flags = 1 -/
theorem C19_vmhd_counterexample : strictVmhd bVmhd.pre = false := by decide

/-- the rest of the progressive `vmhd` is as prescribed: 12 bytes, version 0, graphicsmode and
    opcolor zero; only the flags differ (0 instead of 1) -/
theorem C19_vmhd_partial :
    bVmhd.pre.length = 12 ∧ be bVmhd.pre 0 1 = 0 ∧ be bVmhd.pre 1 3 = 0 ∧ allZero bVmhd.pre 4 8 = true := by
  decide

/-! ## 6. track ids -/

/-- In the movie box of the progressive writer: the (first) `mvhd` child is `bMvhd` with next-track
    id 3 when an audio track is present and 2 otherwise; the `trak` children are the video track
    with track id 1 and — if present — the audio track with id 2 (ids read at offset 12 of the
    first `tkhd` child). So the ids are distinct, non-zero and below the next-track id. -/
theorem C19_track_ids (width height : Nat) (vt : Tables) (audio : Option (AudioTrack × Tables))
    (vc : VideoConfig) (md : Option Metadata) :
    let moov := bMoov width height vt audio vc md
    let durMs := max (toMs vt.totalDuration)
      (match audio with | some (_, at_) => toMs at_.totalDuration | none => 0)
    child? "mvhd" moov.kids = some (bMvhd durMs (if audio.isSome then 3 else 2)) ∧
    be (bMvhd durMs (if audio.isSome then 3 else 2)).pre 96 4 = (if audio.isSome then 3 else 2) ∧
    (children "trak" moov.kids).map (fun t => (child? "tkhd" t.kids).map (fun k => be k.pre 12 4)) =
      (if audio.isSome then [some 1, some 2] else [some 1]) := by
  intro moov durMs
  -- the `tkhd` is the first child of either `trak`
  have hv : ∀ w h t v l, child? "tkhd" (bVideoTrak w h t v l).kids = some (bTkhd 1 0 w h (toMs t.totalDuration)) :=
    fun _ _ _ _ _ => rfl
  have ha : ∀ a t l, child? "tkhd" (bAudioTrak a t l).kids = some (bTkhd 2 0x0100 0 0 (toMs t.totalDuration)) :=
    fun _ _ _ => rfl
  refine ⟨rfl, ?_, ?_⟩
  · rw [bMvhd_nextTrackId]; split <;> rfl
  · rw [(bMoov_lookups width height vt audio vc md).2.1]
    rcases audio with _ | ⟨a, t⟩ <;> simp [audioTraks, hv, ha, bTkhd_trackId]

/-- the fragmented muxer has the single track 1 and next-track id 2 (see `C19_ftkhd`, `C19_fmvhd`),
    and `trex` refers to track 1 -/
theorem C19_ftrack_ids (c : FragConfig) :
    (fMoov c).kids = [fMvhd c.timescale, fMvex, fTrak c] ∧ fMvex.kids = [fTrex] ∧
    (fTrak c).kids.head? = some (fTkhd c) := ⟨rfl, rfl, rfl⟩

/-! ## non-vacuity -/
example : strictMvhd (bMvhd 5000 3).pre = some ⟨1000, 5000, 3⟩ := C19_mvhd 5000 3 (by omega) (by omega)
example : strictVisualEntry (visualEntryPrefix 1920 1080) = some ⟨1920, 1080⟩ :=
  C19_visual_entry 1920 1080 (by omega) (by omega)
example : strictAudioEntry (audioEntryPrefix 2 (48000 * 65536)) = some ⟨2, 16, 48000 * 65536⟩ :=
  C19_audio_entry 2 _ (by omega) (by omega)

end Muxide.Props.C19
