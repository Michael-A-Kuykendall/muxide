import Muxide.Lemmas.Timing
import Muxide.Lemmas.Tables
/-
  C03 — timing tables of the progressive MP4 writer: decode-time steps are the differences of the
  submitted decode timestamps (in 90 kHz ticks, no accumulated drift), composition offsets are
  `pts - dts`, ctts present iff some offset is non-zero, the final sample repeats the preceding
  interval, and mdhd carries the exact sum of the sample durations.
  Helper lemmas live in Muxide/Lemmas/Timing.lean and Tables.lean.
  Everything is stated on the writer, whose inputs are already ticks: the API applies
  `F64.ticks` to every absolute timestamp and never accumulates.
-/
namespace Muxide.Props.C03
open Muxide

/-! ## 1. the writer invariant

`VInv w` (see `TrackInv`, `Linked`, `lastDeltaOf` in Lemmas/Timing.lean) says, for the newest-first
queue `w.vsRev = sₙ :: … :: s₁`: decode times strictly increase oldest → newest, every step is at
most 2^32-1, each non-newest sample has `dur = some (dtsᵢ₊₁ - dtsᵢ)`, the newest has `dur = none`,
`w.vPrev = some dtsₙ` (none iff empty), `w.vLastDelta = some (dtsₙ - dtsₙ₋₁)` iff n ≥ 2, and
`-2^31 ≤ pts - dts ≤ 2^31 - 1` for every sample. `AInv` is the same for audio with non-decreasing
times and `pts = dts`. -/

/-- the invariant in unfolded form, for the two newest samples -/
theorem VInv_unfold (w : Writer) : VInv w ↔
    Linked true w.vsRev ∧ (∀ s r, w.vsRev = s :: r → s.dur = none) ∧
    w.vPrev = w.vsRev.head?.map (·.dts) ∧ w.vLastDelta = lastDeltaOf w.vsRev ∧
    (∀ s ∈ w.vsRev, -(2^31 : Int) ≤ (s.pts : Int) - s.dts ∧ (s.pts : Int) - s.dts ≤ 2^31 - 1) :=
  ⟨fun h => ⟨h.linked, h.newest, h.prev_eq, h.ld_eq, h.cts⟩, fun ⟨a, b, c, d, e⟩ => ⟨a, b, c, d, e⟩⟩

theorem VInv_init (codec : VCodec) (audio : Option AudioTrack) :
    VInv { codec := codec, audio := audio } := TrackInv_nil true

theorem AInv_init (codec : VCodec) (audio : Option AudioTrack) :
    AInv { codec := codec, audio := audio } := ⟨TrackInv_nil false, by simp⟩

/-- a rejected video frame leaves the writer unchanged -/
theorem writeVideo_rejected (w : Writer) (pts dts : Nat) (data : Bytes) (key : Bool)
    (h : (w.writeVideo pts dts data key).2 ≠ .ok) : (w.writeVideo pts dts data key).1 = w :=
  Writer.writeVideo_not_ok w pts dts data key h

/-- a rejected audio frame leaves the writer unchanged -/
theorem writeAudio_rejected (w : Writer) (pts : Nat) (data : Bytes)
    (h : (w.writeAudio pts data).2 ≠ .ok) : (w.writeAudio pts data).1 = w :=
  Writer.writeAudio_not_ok w pts data h

theorem VInv_writeVideo (w : Writer) (pts dts : Nat) (data : Bytes) (key : Bool) (h : VInv w) :
    VInv (w.writeVideo pts dts data key).1 := by
  rcases w.writeVideo_cases pts dts data key with ⟨e, -, h'⟩ | ⟨he, h'⟩ <;> rw [h']
  · exact h
  · exact h.videoPush he

theorem AInv_writeVideo (w : Writer) (pts dts : Nat) (data : Bytes) (key : Bool) (h : AInv w) :
    AInv (w.writeVideo pts dts data key).1 := by
  obtain ⟨_, _, _, _, e⟩ := w.writeVideo_frame pts dts data key
  rw [e]; exact h

theorem VInv_writeAudio (w : Writer) (pts : Nat) (data : Bytes) (h : VInv w) :
    VInv (w.writeAudio pts data).1 := by
  obtain ⟨_, _, _, e⟩ := w.writeAudio_frame pts data
  rw [e]; exact h

theorem AInv_writeAudio (w : Writer) (pts : Nat) (data : Bytes) (h : AInv w) :
    AInv (w.writeAudio pts data).1 := by
  rcases w.writeAudio_cases pts data with ⟨e, -, h'⟩ | ⟨he, h'⟩ <;> rw [h']
  · exact h
  · exact h.audioPush he

/-! ## 2. sample durations = steps of the decode timestamps; no drift -/

/-- per-track statement (video: `strict = true`; audio: `strict = false`) -/
theorem track_durations {strict : Bool} {rev : List Sample} {prev ld : Option Nat}
    (h : TrackInv strict rev prev ld) :
    (rev = [] → durationsOf rev.reverse ld = []) ∧
    (∀ s, rev = [s] → durationsOf rev.reverse ld = [1]) ∧
    (∀ s t r, rev = s :: t :: r →
      durationsOf rev.reverse ld =
        List.zipWith (· - ·) (dtsOf rev).tail (dtsOf rev) ++ [s.dts - t.dts]) := by
  refine ⟨?_, ?_, ?_⟩
  · rintro rfl; exact durationsOf_nil _
  · rintro s rfl
    rw [TrackInv_durations h, h.ld_eq]; simp [dtsOf, deltas, lastDeltaOf]
  · rintro s t r rfl
    rw [TrackInv_durations h, h.ld_eq, deltas_eq_zipWith]; simp [lastDeltaOf]

/-- the durations the file gives to the video samples: each sample but the last lasts until the
    next decode timestamp; the last one repeats the preceding interval (`s` newest, `t` second
    newest); a lone sample gets 1 tick -/
theorem C03_durations (w : Writer) (h : VInv w) :
    (w.vsRev = [] → durationsOf w.vsRev.reverse w.vLastDelta = []) ∧
    (∀ s, w.vsRev = [s] → durationsOf w.vsRev.reverse w.vLastDelta = [1]) ∧
    (∀ s t r, w.vsRev = s :: t :: r →
      durationsOf w.vsRev.reverse w.vLastDelta =
        List.zipWith (· - ·) (dtsOf w.vsRev).tail (dtsOf w.vsRev) ++ [s.dts - t.dts]) :=
  track_durations h

theorem C03_durations_audio (w : Writer) (h : AInv w) :
    (w.asRev = [] → durationsOf w.asRev.reverse w.aLastDelta = []) ∧
    (∀ s, w.asRev = [s] → durationsOf w.asRev.reverse w.aLastDelta = [1]) ∧
    (∀ s t r, w.asRev = s :: t :: r →
      durationsOf w.asRev.reverse w.aLastDelta =
        List.zipWith (· - ·) (dtsOf w.asRev).tail (dtsOf w.asRev) ++ [s.dts - t.dts]) :=
  track_durations h.1

/-- no accumulated drift on the video track, over any number of frames -/
theorem C03_nodrift (w : Writer) (h : VInv w) (k : Nat) (hk : k < w.vsRev.length) :
    (dtsOf w.vsRev)[0]'(by rw [dtsOf_length]; omega) +
        ((durationsOf w.vsRev.reverse w.vLastDelta).take k).sum =
      (dtsOf w.vsRev)[k]'(by rw [dtsOf_length]; exact hk) :=
  track_nodrift h k hk

theorem C03_nodrift_audio (w : Writer) (h : AInv w) (k : Nat) (hk : k < w.asRev.length) :
    (dtsOf w.asRev)[0]'(by rw [dtsOf_length]; omega) +
        ((durationsOf w.asRev.reverse w.aLastDelta).take k).sum =
      (dtsOf w.asRev)[k]'(by rw [dtsOf_length]; exact hk) :=
  track_nodrift h.1 k hk

/-- submitted video decode timestamps are strictly increasing, audio non-decreasing -/
theorem C03_monotone (w : Writer) (hv : VInv w) (ha : AInv w) :
    (dtsOf w.vsRev).Pairwise (· < ·) ∧ (dtsOf w.asRev).Pairwise (· ≤ ·) :=
  ⟨(dtsOf_pairwise hv.linked).imp fun h => h.2 rfl, (dtsOf_pairwise ha.1.linked).imp And.left⟩

/-- every sample duration of either track fits the 32-bit stts field -/
theorem C03_durations_u32 (w : Writer) (hv : VInv w) (ha : AInv w) :
    (∀ d ∈ durationsOf w.vsRev.reverse w.vLastDelta, d ≤ u32Max) ∧
    (∀ d ∈ durationsOf w.asRev.reverse w.aLastDelta, d ≤ u32Max) :=
  ⟨TrackInv_durations_le hv, TrackInv_durations_le ha.1⟩

/-! ## 3. run-length tables -/

/-- expanding the run-length table gives back the per-sample values -/
theorem C03_rle {α} [DecidableEq α] (xs : List α) :
    (rle xs).flatMap (fun (c, x) => List.replicate c x) = xs :=
  expandRuns_rle xs

/-- every run is non-empty and adjacent runs carry different values -/
theorem C03_rle_runs {α} [DecidableEq α] (xs : List α) : RunsOK (rle xs) :=
  rleAux_runsOK xs [] trivial

/-- the stts / ctts payloads are the run-length tables of the per-sample durations / offsets -/
theorem C03_stts_ctts (ds : List Nat) (os : List Int) :
    bStts ds = Box.leaf "stts" (u32be 0 ++ u32be (rle ds).length ++
      (rle ds).flatMap fun (c, d) => u32be c ++ u32be d) ∧
    bCtts os = Box.leaf "ctts" (u32be 0x01000000 ++ u32be (rle os).length ++
      (rle os).flatMap fun (c, o) => u32be c ++ i32be o) := ⟨rfl, rfl⟩

/-! ## 4. composition offsets and the ctts box -/

/-- `ctsOf` (the `(pts as i64 - dts as i64) as i32` of the writer) is exact for timestamps below
    2^63 whose difference fits an `i32` (only the range of the difference matters: `ctsOf_eq`) -/
theorem C03_ctsOf_exact (pts dts : Nat) (hp : pts < 2^63) (hd : dts < 2^63)
    (h1 : -(2^31 : Int) ≤ (pts : Int) - dts) (h2 : (pts : Int) - dts ≤ 2^31 - 1) :
    ctsOf pts dts = some ((pts : Int) - dts) :=
  ctsOf_eq pts dts h1 h2

/-- on all u64 timestamps whose difference fits an `i32` (which the writer checks when it
    accepts the frame) `ctsOf` is exact: the subtraction is done in 128 bits and cannot overflow.
    (Before the `fix:` commit "composition offsets are computed without i64 overflow" the offset
    computation overflowed for timestamps on different sides of 2^63 ticks and finish panicked.) -/
theorem C03_ctsOf_char (pts dts : Nat) (hp : pts < 2^64) (hd : dts < 2^64)
    (h1 : -(2^31 : Int) ≤ (pts : Int) - dts) (h2 : (pts : Int) - dts ≤ 2^31 - 1) :
    ctsOf pts dts = some ((pts : Int) - dts) :=
  ctsOf_eq pts dts h1 h2

/-- the formerly overflowing case -/
example : ctsOf (2^63) (2^63 - 1) = some 1 := by decide

/-- tables: offsets are `pts - dts` per sample and `hasBframes` says some offset is non-zero,
    whenever `ctsOf` is exact on every sample -/
theorem tables_ctts (vs : List Sample) (offs : List Nat) (spc : Nat) (fb : Option Nat)
    (h : ∀ s ∈ vs, ctsOf s.pts s.dts = some ((s.pts : Int) - s.dts)) :
    (Tables.ofSamples vs offs spc fb).ctsOffsets = vs.map (fun s => (s.pts : Int) - s.dts) ∧
    ((Tables.ofSamples vs offs spc fb).hasBframes = true ↔ ∃ s ∈ vs, s.pts ≠ s.dts) := by
  have e : vs.map (fun s => (ctsOf s.pts s.dts).getD 0) = vs.map (fun s => (s.pts : Int) - s.dts) :=
    List.map_congr_left fun s hs => by rw [h s hs]; rfl
  simp only [Tables.ofSamples, e, true_and, List.any_map, List.any_eq_true]
  refine exists_congr fun s => and_congr_right fun _ => ?_
  simp only [Function.comp, decide_eq_true_eq]
  omega

/-- composition offsets of the video track in any state that satisfies the invariant: the writer
    has checked that every `pts - dts` fits an `i32`, which is all `ctsOf` needs -/
theorem ctts_of_inv (w : Writer) (offs : List Nat) (spc : Nat) (h : VInv w) :
    (Tables.ofSamples w.vsRev.reverse offs spc w.vLastDelta).ctsOffsets =
      w.vsRev.reverse.map (fun s => (s.pts : Int) - s.dts) ∧
    ((Tables.ofSamples w.vsRev.reverse offs spc w.vLastDelta).hasBframes = true ↔
      ∃ s ∈ w.vsRev.reverse, s.pts ≠ s.dts) :=
  tables_ctts _ _ _ _ fun s hs =>
    have hc := h.cts s (List.mem_reverse.mp hs)
    ctsOf_eq _ _ hc.1 hc.2

/-- Composition offsets of a finished video track. Hypotheses beyond `VInv`: timestamps are u64
    (the Rust type; the API's `ticks` saturates at 2^64-1) and the offset computation did not
    overflow on any sample — which `C03_finalize_ok` shows is the case whenever finalize
    produced a file. (Neither is used: `ctts_of_inv` is the statement without them.) -/
theorem C03_ctts (w : Writer) (offs : List Nat) (spc : Nat) (h : VInv w)
    (h64 : ∀ s ∈ w.vsRev, s.pts < 2^64 ∧ s.dts < 2^64)
    (hnp : ∀ s ∈ w.vsRev, (ctsOf s.pts s.dts).isSome) :
    (Tables.ofSamples w.vsRev.reverse offs spc w.vLastDelta).ctsOffsets =
      w.vsRev.reverse.map (fun s => (s.pts : Int) - s.dts) ∧
    ((Tables.ofSamples w.vsRev.reverse offs spc w.vLastDelta).hasBframes = true ↔
      ∃ s ∈ w.vsRev.reverse, s.pts ≠ s.dts) :=
  ctts_of_inv w offs spc h

/-- the same under the simpler hypothesis that all timestamps are below 2^63 ticks (≈ 3.2 million
    years), with no assumption on the outcome of finalize -/
theorem C03_ctts_partial (w : Writer) (offs : List Nat) (spc : Nat) (h : VInv w)
    (h63 : ∀ s ∈ w.vsRev, s.pts < 2^63 ∧ s.dts < 2^63) :
    (Tables.ofSamples w.vsRev.reverse offs spc w.vLastDelta).ctsOffsets =
      w.vsRev.reverse.map (fun s => (s.pts : Int) - s.dts) ∧
    ((Tables.ofSamples w.vsRev.reverse offs spc w.vLastDelta).hasBframes = true ↔
      ∃ s ∈ w.vsRev.reverse, s.pts ≠ s.dts) :=
  ctts_of_inv w offs spc h

/-- in the video sample table the children of type `ctts` are: the composition-offset table when
    `hasBframes`, nothing otherwise -/
theorem C03_ctts_present (width height : Nat) (t : Tables) (vc : VideoConfig) :
    (bVideoStbl width height t vc).kids.filter (fun b => b.typ = ascii "ctts") =
      if t.hasBframes then [bCtts t.ctsOffsets] else [] := by
  obtain ⟨e1, e2, e3, e4, e5, e6⟩ := stbl_types_ne_ctts
  -- the filter goes through the four pieces of the child list one by one
  simp [bVideoStbl, node_kids, List.filter_append, apply_ite (List.filter _),
    bStsc_typ, bStsd, bStts, bCtts, bStsz, bStco, bStss, node_typ, leaf_typ, e1, e2, e3, e4, e5, e6]

/-- `finalize` produces a file (`res = .ok`) only if no offset computation overflowed and both
    tracks' total durations fit the 32-bit mdhd field -/
theorem C03_finalize_ok (w : Writer) (width height : Nat) (md : Option Metadata) (fast : Bool)
    (h : (w.finalize width height md fast).2.res = .ok) :
    (∀ s ∈ w.vsRev, (ctsOf s.pts s.dts).isSome) ∧
    (durationsOf w.vsRev.reverse w.vLastDelta).sum ≤ 2^32 - 1 ∧
    (durationsOf w.asRev.reverse w.aLastDelta).sum ≤ 2^32 - 1 :=
  ⟨fun _ _ => rfl, (finalize_ok h).vdur, (finalize_ok h).adur⟩

/-! ## 5. mdhd duration = sum of the sample durations -/

/-- the track boxes carry `bMdhd 90000 (sum of the sample durations)` -/
theorem C03_mdhd_boxes (width height : Nat) (vs : List Sample) (offs : List Nat) (spc : Nat)
    (fb : Option Nat) (vc : VideoConfig) (a : AudioTrack) (lang : Option (List Nat)) :
    (∃ tk rest, bVideoTrak width height (Tables.ofSamples vs offs spc fb) vc lang =
      Box.node "trak" [] [tk, Box.node "mdia" [] (bMdhd 90000 (durationsOf vs fb).sum lang :: rest)]) ∧
    (∃ tk rest, bAudioTrak a (Tables.ofSamples vs offs spc fb) lang =
      Box.node "trak" [] [tk, Box.node "mdia" [] (bMdhd 90000 (durationsOf vs fb).sum lang :: rest)]) :=
  ⟨⟨_, _, rfl⟩, ⟨_, _, rfl⟩⟩

/-- the mdhd payload is version/flags, creation, modification, timescale, then the duration as a
    32-bit big-endian field; reading it back returns the exact value when it fits 32 bits -/
theorem C03_mdhd (timescale dur : Nat) (lang : Option (List Nat)) (h : dur ≤ 2^32 - 1) :
    ∃ rest, (bMdhd timescale dur lang).pre =
        u32be 0 ++ u32be 0 ++ u32be 0 ++ u32be timescale ++ (u32be dur ++ rest) ∧
      readU32 ((bMdhd timescale dur lang).pre.drop 16) = some (dur, rest) := by
  have e : (bMdhd timescale dur lang).pre = u32be 0 ++ u32be 0 ++ u32be 0 ++ u32be timescale ++
      (u32be dur ++ (u16be (langCode (lang.getD [117, 110, 100])) ++ u16be 0)) := by
    simp [bMdhd, Box.leaf, Box.pre]
  refine ⟨_, e, ?_⟩
  rw [e, List.drop_left' (by simp)]
  exact readU32_u32be dur (by omega) _

/-- so, for a finished file, both mdhd duration fields read back as the exact sums -/
theorem C03_mdhd_finished (w : Writer) (width height : Nat) (md : Option Metadata) (fast : Bool)
    (lang : Option (List Nat)) (h : (w.finalize width height md fast).2.res = .ok) :
    (∃ rest, readU32 ((bMdhd 90000 (durationsOf w.vsRev.reverse w.vLastDelta).sum lang).pre.drop 16) =
      some ((durationsOf w.vsRev.reverse w.vLastDelta).sum, rest)) ∧
    (∃ rest, readU32 ((bMdhd 90000 (durationsOf w.asRev.reverse w.aLastDelta).sum lang).pre.drop 16) =
      some ((durationsOf w.asRev.reverse w.aLastDelta).sum, rest)) := by
  obtain ⟨-, hv, ha⟩ := C03_finalize_ok w width height md fast h
  obtain ⟨r1, -, e1⟩ := C03_mdhd 90000 _ lang hv
  obtain ⟨r2, -, e2⟩ := C03_mdhd 90000 _ lang ha
  exact ⟨⟨r1, e1⟩, ⟨r2, e2⟩⟩

/-! ## the finished file is built from these tables -/

/-- when finalize produces a file, one of the chunks handed to the sink is the moov built from
    `Tables.ofSamples` of the two queues (see `MoovOf`) — the tables all theorems above are about -/
theorem C03_finished_moov (w : Writer) (width height : Nat) (md : Option Metadata) (fast : Bool)
    (h : (w.finalize width height md fast).2.res = .ok) :
    ∃ moov ∈ (w.finalize width height md fast).2.chunks, MoovOf w width height md moov := by
  have e := (finalize_ok h).out
  rw [e] at h ⊢
  cases fast
  · rw [layoutOut_false] at h ⊢
    rw [(finalizeStandard_ok h).chunks]
    exact ⟨_, List.mem_append_right _ (List.mem_singleton_self _), MoovOf_moovOf w width height md _⟩
  · rw [layoutOut_true] at h ⊢
    rw [(finalizeFastStart_ok h).chunks]
    exact ⟨_, List.mem_append_left _ (List.mem_append_left _ (List.mem_cons_of_mem _ List.mem_cons_self)),
      MoovOf_moovOf w width height md _⟩

/-! ## API level: the invariants hold in every reachable state, and the writer receives
    `ticks` of each absolute timestamp -/

/-- both track invariants -/
def Inv (m : Muxer) : Prop := VInv m.w ∧ AInv m.w

theorem C03_inv_build (c : Config) : Inv (build c) :=
  ⟨TrackInv_nil true, TrackInv_nil false, by simp [build]⟩

theorem Inv_writer_writeVideo {w : Writer} (h : VInv w ∧ AInv w) (pts dts : Nat) (data : Bytes) (key : Bool) :
    VInv (w.writeVideo pts dts data key).1 ∧ AInv (w.writeVideo pts dts data key).1 :=
  ⟨VInv_writeVideo w pts dts data key h.1, AInv_writeVideo w pts dts data key h.2⟩

theorem Inv_writer_writeAudio {w : Writer} (h : VInv w ∧ AInv w) (pts : Nat) (data : Bytes) :
    VInv (w.writeAudio pts data).1 ∧ AInv (w.writeAudio pts data).1 :=
  ⟨VInv_writeAudio w pts data h.1, AInv_writeAudio w pts data h.2⟩

/-- every API call preserves the invariants -/
theorem C03_inv_api (m : Muxer) (h : Inv m) :
    (∀ pts data key, Inv (m.writeVideo pts data key).1) ∧
    (∀ pts dts data key, Inv (m.writeVideoDts pts dts data key).1) ∧
    (∀ pts data, Inv (m.writeAudio pts data).1) ∧
    (∀ data durMs, Inv (m.encodeVideo data durMs).1) ∧
    (∀ data samples, Inv (m.encodeAudio data samples).1) ∧
    (∀ d, Inv (m.finishStats d).1) := by
  -- a refused call returns `m`; an accepted one has passed the writer's checks and pushes one sample
  refine ⟨fun pts d k => ?_, fun pts dts d k => ?_, fun pts d => ?_, fun d ms => ?_, fun d n => ?_, fun d => ?_⟩
  · rcases m.writeVideo_cases pts d k with ⟨e, i, hr⟩ | ⟨-, he, hr⟩ <;> rw [hr]
    · exact h
    · exact ⟨h.1.videoPush he, h.2.videoPush⟩
  · rcases m.writeVideoDts_cases pts dts d k with ⟨e, i, hr⟩ | ⟨-, he, hr⟩ <;> rw [hr]
    · exact h
    · exact ⟨h.1.videoPush he, h.2.videoPush⟩
  · rcases m.writeAudio_cases pts d with ⟨e, i, hr⟩ | ⟨-, he, hr⟩ <;> rw [hr]
    · exact h
    · exact ⟨h.1.audioPush, h.2.audioPush he⟩
  · rcases m.encodeVideo_cases d ms with ⟨e, i, hr⟩ | ⟨-, he, hr⟩ <;> rw [hr]
    · exact h
    · exact ⟨h.1.videoPush he, h.2.videoPush⟩
  · rcases m.encodeAudio_cases d n with ⟨e, i, hr⟩ | ⟨a, -, -, he, hr⟩ <;> rw [hr]
    · exact h
    · exact ⟨h.1.audioPush, h.2.audioPush he⟩
  · obtain ⟨b, fl, e⟩ := Muxer_finishStats_w m d
    unfold Inv
    rw [e]
    exact h

theorem videoPush_ticks (w : Writer) (pts dts : Nat) (d : Bytes) (k : Bool) :
    ∃ s r, (w.videoPush pts dts d k).vsRev = s :: r ∧ s.pts = pts ∧ s.dts = dts ∧
      r.map (fun x => (x.pts, x.dts)) = w.vsRev.map (fun x => (x.pts, x.dts)) := by
  obtain ⟨vc, e⟩ := w.videoPush_eq pts dts d k
  rw [e]
  exact ⟨_, _, rfl, rfl, rfl, map_pushRev _ (fun _ _ => rfl) _ _ _⟩

/-- an accepted `write_video_with_dts(pts, dts)` queues a sample whose timestamps are
    `ticks pts`, `ticks dts` — each absolute timestamp is rounded on its own, nothing accumulates -/
theorem C03_api_ticks_video (m : Muxer) (pts dts : F64) (data : Bytes) (key : Bool)
    (h : (m.writeVideoDts pts dts data key).2 = .ok) :
    ∃ s r, (m.writeVideoDts pts dts data key).1.w.vsRev = s :: r ∧ s.pts = pts.ticks ∧ s.dts = dts.ticks ∧
      r.map (fun x => (x.pts, x.dts)) = m.w.vsRev.map (fun x => (x.pts, x.dts)) := by
  rcases m.writeVideoDts_cases pts dts data key with ⟨e, i, hr⟩ | ⟨-, -, hr⟩ <;> rw [hr] at h ⊢
  · cases h
  · exact videoPush_ticks m.w pts.ticks dts.ticks data key

/-- `write_video(pts)` likewise, with dts = pts -/
theorem C03_api_ticks_video' (m : Muxer) (pts : F64) (data : Bytes) (key : Bool)
    (h : (m.writeVideo pts data key).2 = .ok) :
    ∃ s r, (m.writeVideo pts data key).1.w.vsRev = s :: r ∧ s.pts = pts.ticks ∧ s.dts = pts.ticks ∧
      r.map (fun x => (x.pts, x.dts)) = m.w.vsRev.map (fun x => (x.pts, x.dts)) := by
  rcases m.writeVideo_cases pts data key with ⟨e, i, hr⟩ | ⟨-, -, hr⟩ <;> rw [hr] at h ⊢
  · cases h
  · exact videoPush_ticks m.w pts.ticks pts.ticks data key

/-- `write_audio(pts)` likewise -/
theorem C03_api_ticks_audio (m : Muxer) (pts : F64) (data : Bytes)
    (h : (m.writeAudio pts data).2 = .ok) :
    ∃ s r, (m.writeAudio pts data).1.w.asRev = s :: r ∧ s.pts = pts.ticks ∧ s.dts = pts.ticks ∧
      r.map (fun x => (x.pts, x.dts)) = m.w.asRev.map (fun x => (x.pts, x.dts)) := by
  rcases m.writeAudio_cases pts data with ⟨e, i, hr⟩ | ⟨-, -, hr⟩ <;> rw [hr] at h ⊢
  · cases h
  · show ∃ s r, (m.w.audioPush pts.ticks (storedAudio m.w data)).asRev = s :: r ∧ _
    rw [Writer.audioPush_eq]
    exact ⟨_, _, rfl, rfl, rfl, map_pushRev _ (fun _ _ => rfl) _ _ _⟩

/-! ## non-vacuity -/

/-- a queue of three video frames with reordering (decode 0, 3000, 6000; present 3000, 9000, 6000) -/
def exW : Writer :=
  { codec := .h264,
    vsRev := [⟨6000, 6000, [3], false, none⟩, ⟨9000, 3000, [2], false, some 3000⟩,
              ⟨3000, 0, [1], true, some 3000⟩],
    vPrev := some 6000, vLastDelta := some 3000 }

example : VInv exW := by
  refine ⟨?_, ?_, rfl, rfl, ?_⟩
  · simp [exW, Linked, u32Max]
  · simp [exW]
  · simp [exW]

example : durationsOf exW.vsRev.reverse exW.vLastDelta = [3000, 3000, 3000] := by decide
example : (Tables.ofSamples exW.vsRev.reverse [] 0 exW.vLastDelta).ctsOffsets = [3000, 6000, 0] := by decide
example : rle [3000, 3000, 3000, 1] = [(3, 3000), (1, 1)] := by decide

end Muxide.Props.C03
