import Muxide.Model.Validation
/-
  C12 (validation module) — the model of src/validation.rs has no panic outcome: every function is
  total on all arguments.  What the theorems add is the invariant a caller relies on when it only looks
  at `is_valid`: the verdict is `true` exactly when no error was recorded, for every input, through every
  nesting of `validate_muxing_config`.
-/
namespace Muxide

/-- the invariant of `ValidationResult` -/
def VRes.Consistent (r : VRes) : Prop := r.valid = true ↔ r.errs = 0

theorem VRes.consistent_new : ({} : VRes).Consistent := by simp [VRes.Consistent]
theorem VRes.consistent_msg_iff {r : VRes} : r.withMessage.Consistent ↔ r.Consistent := Iff.rfl
theorem VRes.consistent_msg {r : VRes} (h : r.Consistent) : r.withMessage.Consistent :=
  VRes.consistent_msg_iff.2 h
theorem VRes.consistent_err (r : VRes) : r.withError.Consistent := by
  simp [VRes.Consistent, VRes.withError]
theorem VRes.consistent_merge {r o : VRes} (hr : r.Consistent) (ho : o.Consistent) : (r.merge o).Consistent := by
  simp only [VRes.Consistent, VRes.merge] at *
  cases hrv : r.valid <;> cases hov : o.valid <;> simp_all <;> omega

/- The four single validators are trees of `if`s whose leaves add an error, or a message to a result
   built the same way: the invariant goes through the tree (`apply_ite`) by these rules. -/
attribute [local simp] VRes.consistent_msg_iff VRes.consistent_err VRes.consistent_new

theorem C12_validate_video_config (w h : Nat) (fps : F64) : (validateVideoConfig w h fps).Consistent := by
  simp [validateVideoConfig, apply_ite VRes.Consistent]

theorem C12_validate_audio_config (c : ACodec) (rate ch : Nat) : (validateAudioConfig c rate ch).Consistent := by
  cases c <;> simp [validateAudioConfig, apply_ite VRes.Consistent]

theorem C12_validate_video_frame (c : VCodec) (d : Bytes) (k : Bool) : (validateVideoFrame c d k).Consistent := by
  simp [validateVideoFrame, apply_ite VRes.Consistent]

theorem C12_validate_audio_frame (c : ACodec) (d : Bytes) : (validateAudioFrame c d).Consistent := by
  cases c <;> simp [validateAudioFrame, apply_ite VRes.Consistent]

/-- `validate_muxing_config(..).is_valid` is true exactly when no error was recorded, for every
    configuration (any field present or absent, any sample frames) -/
theorem C12_validate_muxing_config (v : VideoValidationConfig) (a : AudioValidationConfig) :
    (validateMuxingConfig v a).Consistent := by
  unfold validateMuxingConfig
  extract_lets r0 rv ra
  -- the video stage, the audio stage, the final check: each adds an error, leaves the result alone, or
  -- merges consistent results
  have hv : rv.Consistent := by
    unfold rv
    split
    · split
      · exact VRes.consistent_merge (VRes.consistent_merge VRes.consistent_new (C12_validate_video_config ..))
          (C12_validate_video_frame ..)
      · exact VRes.consistent_merge VRes.consistent_new (C12_validate_video_config ..)
    · exact VRes.consistent_err _
    · exact VRes.consistent_new
  have ha : ra.Consistent := by
    unfold ra
    split
    · split
      · exact VRes.consistent_merge (VRes.consistent_merge hv (C12_validate_audio_config ..)) (C12_validate_audio_frame ..)
      · exact VRes.consistent_merge hv (C12_validate_audio_config ..)
    · split
      · exact VRes.consistent_err _
      · exact hv
    · exact hv
  split
  · exact VRes.consistent_err _
  · exact ha

/-- nothing configured is refused; a complete valid pair is accepted (non-vacuity of both verdicts) -/
example : (validateMuxingConfig ⟨none, none, none, none, none⟩ ⟨none, none, none, none⟩).valid = false ∧
    (validateMuxingConfig ⟨some .h264, some 640, some 480, some (F64.ofNat 30), none⟩
      ⟨some (.aac .lc), some 48000, some 2, none⟩) = ⟨true, 6, 0⟩ := by decide +kernel

end Muxide
