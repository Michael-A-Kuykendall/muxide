import Muxide.Generated.Tables
/-
  C03 (mechanical tie) — Muxide.Generated.Tables is produced by tools/rs2lean_tables.py from the Rust source of
  `SampleTables::from_samples` on every check run.  The theorem states that the translated function is the
  model's `Tables.ofSamples` — durations (each sample's stored duration, the fallback for the last, 1 otherwise),
  sizes, 1-based key-frame numbers, composition offsets as pts − dts in 32 bits, and the flag that decides
  whether ctts is written — whenever payload sizes and the sample count are below 2^32 (which the writer's own
  checks guarantee: `converted.len() > u32::MAX` is refused, and 2^32 samples of ≥ 1 tick exceed the 32-bit track
  duration).  The timing theorems of Props/C03.lean / C03E2E.lean are thereby about the translated source.
-/
namespace Muxide.Props.C03Generated
open Muxide Muxide.Generated.Tables

theorem mem_zip_range_lt {α} (l : List α) (i : Nat) (x : α) (h : (i, x) ∈ List.zip (List.range l.length) l) :
    i < l.length :=
  List.mem_range.mp (List.of_mem_zip h).1

theorem filterMap_eq_filter_map {α β} (l : List α) (p : α → Bool) (f : α → β) :
    l.filterMap (fun x => if p x then some (f x) else none) = (l.filter p).map f := by
  rw [← List.filterMap_eq_map', List.filterMap_filter]

theorem filterMap_congr_mem {α β} (l : List α) (f g : α → Option β) (h : ∀ x ∈ l, f x = g x) :
    l.filterMap f = l.filterMap g := by
  induction l with
  | nil => rfl
  | cons a r ih =>
    simp only [List.filterMap_cons]
    rw [h a (by simp), ih (fun x hx => h x (by simp [hx]))]

/-- `SampleTables::from_samples` = the model's `Tables.ofSamples` -/
theorem C03_gen_from_samples (samples : List Sample) (offs : List Nat) (spc : Nat) (fb : Option Nat)
    (hsize : ∀ s ∈ samples, s.data.length < 2 ^ 32) (hcount : samples.length ≤ 2 ^ 32) :
    from_samples samples offs spc fb = Tables.ofSamples samples offs spc fb := by
  unfold from_samples Tables.ofSamples
  dsimp only
  -- field by field; durations, composition offsets and the B-frame flag agree by definition
  congr 1
  · exact List.map_congr_left fun s hs => Nat.mod_eq_of_lt (hsize s hs)
  · unfold keyframesOf
    rw [← filterMap_eq_filter_map]
    refine filterMap_congr_mem _ _ _ fun ⟨i, sm⟩ hp => ?_
    have hi := mem_zip_range_lt samples i sm hp
    simp [Nat.mod_eq_of_lt (show i < 2 ^ 32 by omega)]

end Muxide.Props.C03Generated
