import Muxide.Generated.Stats
/-
  C06 (mechanical tie) — Muxide.Generated.Stats is produced by tools/rs2lean_stats.py from the Rust source of
  `Mp4Writer::max_end_pts` (with its local `track_end`) on every check run.  The theorems state that the translated
  functions are the model's `trackEnd` and `Writer.maxEndPts` — the largest `pts + duration` over all samples of
  both tracks, the newest sample of a track falling back to the last delta — for every writer state.  C06_stats
  ("duration = maximum end time") and the rounding theorem of Props/C06Duration.lean are thereby about the
  translated source.
-/
namespace Muxide.Props.C06Generated
open Muxide Muxide.Generated.Stats

theorem foldl_max_comm (t : List Nat) : ∀ a b, t.foldl max (max a b) = max (t.foldl max a) b := by
  intro a b
  rw [Nat.max_comm a b, List.foldl_assoc, Nat.max_comm]

theorem max?_snoc (ys : List Nat) (e : Nat) : (ys ++ [e]).max? = some (ys.foldl max e) := by
  cases ys with
  | nil => rfl
  | cons a t =>
    simp only [List.cons_append, List.max?_cons', List.foldl_append, List.foldl_cons, List.foldl_nil]
    rw [Nat.max_comm e a, foldl_max_comm t a e]

theorem foldl_max_reverse (l : List Nat) : ∀ e, l.reverse.foldl max e = l.foldl max e := by
  induction l with
  | nil => intro e; rfl
  | cons a t ih =>
    intro e
    simp only [List.reverse_cons, List.foldl_append, List.foldl_cons, List.foldl_nil]
    rw [ih e, ← foldl_max_comm t e a]

theorem map_zip_range_congr {α β} (l : List α) (n : Nat) (hn : n = l.length) (F : Nat × α → β) (g : α → β)
    (h : ∀ i x, (i, x) ∈ List.zip (List.range n) l → F (i, x) = g x) :
    (List.zip (List.range n) l).map F = l.map g := by
  subst hn
  rw [List.map_congr_left (g := g ∘ Prod.snd) fun p hp => h p.1 p.2 hp, ← List.map_map, List.map_snd_zip (by simp)]

/-- the translated `track_end` on the samples in submission order is the model's `trackEnd` on the queue (newest first) -/
theorem C06_gen_track_end (rev : List Sample) (ld : Option Nat) : track_end rev.reverse ld = trackEnd rev ld := by
  cases rev with
  | nil => rfl
  | cons s older =>
    unfold track_end trackEnd
    simp only [List.length_reverse, List.length_cons, Nat.add_one_ne_zero, if_false, Nat.add_sub_cancel]
    -- in submission order the samples are `older.reverse ++ [s]`, and the indexed list splits with them
    have hzip : List.zip (List.range (older.length + 1)) (s :: older).reverse =
        List.zip (List.range older.length) older.reverse ++ [(older.length, s)] := by
      rw [List.range_succ, List.reverse_cons, List.zip_append (by simp)]
      rfl
    rw [hzip, List.map_append, List.map_singleton, max?_snoc]
    congr 1
    -- below the last index a sample without a duration counts with 0, as in the model's fold
    rw [map_zip_range_congr older.reverse older.length (by simp) _ (fun (x : Sample) => min (x.pts + x.dur.getD 0) u64Max)]
    · rw [List.map_reverse, foldl_max_reverse, List.foldl_map]
      simp only [if_true]
      cases s.dur <;> rfl
    · intro i x hm
      have hi : i < older.length := by simpa using (List.of_mem_zip hm).1
      cases x.dur with
      | none => simp [Nat.ne_of_lt hi]
      | some d => simp

/-- `max_end_pts` = the model's `Writer.maxEndPts`, for every writer -/
theorem C06_gen_max_end_pts (w : Writer) :
    max_end_pts w.vsRev.reverse w.asRev.reverse w.vLastDelta w.aLastDelta = w.maxEndPts := by
  unfold max_end_pts Writer.maxEndPts
  rw [C06_gen_track_end, C06_gen_track_end]
  rfl

end Muxide.Props.C06Generated
