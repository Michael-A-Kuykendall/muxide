import Muxide.Lemmas.Timing
/-
  C06 — nothing reaches the sink before finish; a successful finish writes the file once, after
  which every write / finish attempt is an error and writes nothing; the returned statistics are
  the frame counts, the exact byte count and the largest presentation end time.
  Helper lemmas live in Muxide/Lemmas/Timing.lean.

  In the model only `Muxer.finishStats` (and `Muxer.finish`, its wrapper) returns a `FinOut`
  (the chunks handed to the sink); the write calls return a state and a reply and have no way to
  emit bytes.
-/
namespace Muxide.Props.C06
open Muxide

/-! ## finish happens once -/

/-- from any state whose writer is finalized (in particular after a successful finish, or after a
    failed one), `finishStats` replies an error and hands nothing to the sink, for every sink -/
theorem C06_once_finalized (m : Muxer) (d : Deliver) (h : m.w.finalized = true) :
    (m.finishStats d).2.1.chunks = [] ∧ ∃ e, (m.finishStats d).2.2 = .err e none := by
  cases hf : m.finished with
  | true => rw [m.finishStats_finished d hf]; exact ⟨rfl, _, rfl⟩
  | false =>
    rw [m.finishStats_eq d hf, finalize_of_finalized _ _ _ _ _ h]
    refine ⟨rfl, .io, ?_⟩
    show finishReply (d []).1 _ _ = _
    cases (d []).1 <;> rfl

/-- a successful finish (reply `.stats _`), with any sink behaviour `d`, leaves the muxer finished
    and the writer finalized -/
theorem C06_once_finished (m m' : Muxer) (d : Deliver) (out : FinOut) (st : Stats)
    (h : m.finishStats d = (m', out, .stats st)) :
    m'.finished = true ∧ m'.w.finalized = true ∧ m.finished = false ∧ m.w.finalized = false := by
  obtain ⟨h1, h2, -, -, -, rfl, -⟩ := Muxer.finishStats_stats h
  exact ⟨rfl, rfl, h1, h2⟩

/-- once the muxer is finished, `finishStats` replies `AlreadyFinished`, hands nothing to the
    sink (whatever the sink is) and leaves the state unchanged -/
theorem C06_once_finish_again (m : Muxer) (d : Deliver) (h : m.finished = true) :
    m.finishStats d = (m, ⟨[], .ok⟩, .err .alreadyFinished none) :=
  m.finishStats_finished d h

/-- `finish` likewise -/
theorem C06_once_finish_again' (m : Muxer) (d : Deliver) (h : m.finished = true) :
    m.finish d = (m, ⟨[], .ok⟩, .err .alreadyFinished none) := by
  rw [Muxer.finish_eq, m.finishStats_finished d h]; rfl

/-- the finalized writer hands no chunk to the sink -/
theorem C06_once_writer (w : Writer) (width height : Nat) (md : Option Metadata) (fast : Bool)
    (h : w.finalized = true) :
    (w.finalize width height md fast).1 = w ∧ (w.finalize width height md fast).2.chunks = [] ∧
    ∃ msg, (w.finalize width height md fast).2.res = .ioErr msg := by
  rw [finalize_of_finalized _ _ _ _ _ h]; exact ⟨rfl, rfl, _, rfl⟩

/-! ### writes after finalize -/

theorem writer_writeVideo_finalized (w : Writer) (pts dts : Nat) (data : Bytes) (key : Bool)
    (h : w.finalized = true) : w.writeVideo pts dts data key = (w, .err .alreadyFinalized) := by
  rw [Writer.writeVideo_eq, Writer.videoErr_finalized h]

theorem writer_writeAudio_finalized (w : Writer) (pts : Nat) (data : Bytes)
    (h : w.finalized = true) : w.writeAudio pts data = (w, .err .alreadyFinalized) := by
  rw [Writer.writeAudio_eq, Writer.audioErr_finalized h]

/-- a reply that is an error (not `.ok`, `.stats`, or `.panic`) -/
def IsErr (r : Reply) : Prop := ∃ e i, r = .err e i

/-- a call in `*_cases` form whose writer is finalized: the writer's check names an error, so only the
    refusal is left -/
theorem once_of_cases {m : Muxer} {r : Muxer × Reply} {P Q : Prop} {werr : Option WErr}
    (hw : werr = some .alreadyFinalized) (h : (∃ e i, r = (m, .err e i)) ∨ (P ∧ werr = none ∧ Q)) :
    IsErr r.2 ∧ r.1 = m := by
  rcases h with ⟨e, i, hr⟩ | ⟨-, he, -⟩
  · rw [hr]; exact ⟨⟨e, i, rfl⟩, rfl⟩
  · rw [hw] at he; cases he

theorem C06_once_writeVideo (m : Muxer) (pts : F64) (data : Bytes) (key : Bool)
    (h : m.w.finalized = true) :
    IsErr (m.writeVideo pts data key).2 ∧ (m.writeVideo pts data key).1 = m :=
  once_of_cases (Writer.videoErr_finalized h ..) (m.writeVideo_cases pts data key)

theorem C06_once_writeVideoDts (m : Muxer) (pts dts : F64) (data : Bytes) (key : Bool)
    (h : m.w.finalized = true) :
    IsErr (m.writeVideoDts pts dts data key).2 ∧ (m.writeVideoDts pts dts data key).1 = m :=
  once_of_cases (Writer.videoErr_finalized h ..) (m.writeVideoDts_cases pts dts data key)

theorem C06_once_writeAudio (m : Muxer) (pts : F64) (data : Bytes)
    (h : m.w.finalized = true) :
    IsErr (m.writeAudio pts data).2 ∧ (m.writeAudio pts data).1 = m :=
  once_of_cases (Writer.audioErr_finalized h ..) (m.writeAudio_cases pts data)

theorem C06_once_encodeVideo (m : Muxer) (data : Bytes) (durMs : Nat)
    (h : m.w.finalized = true) :
    IsErr (m.encodeVideo data durMs).2 ∧ (m.encodeVideo data durMs).1 = m :=
  once_of_cases (Writer.videoErr_finalized h ..) (m.encodeVideo_cases data durMs)

theorem C06_once_encodeAudio (m : Muxer) (data : Bytes) (samples : Nat)
    (h : m.w.finalized = true) :
    IsErr (m.encodeAudio data samples).2 ∧ (m.encodeAudio data samples).1 = m :=
  once_of_cases (Writer.audioErr_finalized h ..)
    ((m.encodeAudio_cases data samples).imp_right fun ⟨_, _, hp, he, _⟩ => ⟨hp, he, trivial⟩)

/-! ## the statistics -/

/-- the statistics of a successful finish (any sink behaviour `d`; `(d out.chunks).2` is the number
    of bytes counted as delivered): frame counts are the lengths of the sample queues, the
    duration is `maxEndPts / 90000` in binary64 -/
theorem C06_stats_gen (m m' : Muxer) (d : Deliver) (out : FinOut) (st : Stats)
    (h : m.finishStats d = (m', out, .stats st)) :
    st.video = m.w.vsRev.length ∧ st.audio = m.w.asRev.length ∧
    st.bytes = min (m.w.bytesWritten + (d out.chunks).2) u64Max ∧
    st.duration = F64.div (F64.ofNat (m.w.maxEndPts.getD 0)) (F64.ofNat 90000) ∧
    out = (m.w.finalize m.width m.height m.md m.fast).2 ∧ out.res = .ok ∧ (d out.chunks).1 = .ok () := by
  obtain ⟨-, -, h3, h4, h5, -, rfl⟩ := Muxer.finishStats_stats h
  exact ⟨rfl, rfl, rfl, rfl, h3, h4, h5⟩

/-- with the fault-free sink: `bytes` is exactly the number of bytes delivered (saturating at
    u64::MAX), added to the writer's counter -/
theorem C06_stats (m m' : Muxer) (out : FinOut) (st : Stats)
    (h : m.finishStats deliverAll = (m', out, .stats st)) :
    st.video = m.w.vsRev.length ∧ st.audio = m.w.asRev.length ∧
    st.bytes = min (m.w.bytesWritten + (out.chunks.map (·.length)).sum) (2^64 - 1) ∧
    st.duration = F64.div (F64.ofNat (m.w.maxEndPts.getD 0)) (F64.ofNat 90000) := by
  obtain ⟨a, b, c, e, -⟩ := C06_stats_gen m m' deliverAll out st h
  exact ⟨a, b, c, e⟩

/-- no write call changes the writer's byte counter: before finish it is still 0 for a muxer made
    by `build`, so `bytes` above is exactly the size of the file -/
theorem C06_bytes_unchanged (w : Writer) (pts dts : Nat) (data : Bytes) (key : Bool) :
    (w.writeVideo pts dts data key).1.bytesWritten = w.bytesWritten ∧
    (w.writeAudio pts data).1.bytesWritten = w.bytesWritten := by
  obtain ⟨_, _, _, _, ev⟩ := w.writeVideo_frame pts dts data key
  obtain ⟨_, _, _, ea⟩ := w.writeAudio_frame pts data
  rw [ev, ea]
  exact ⟨rfl, rfl⟩

theorem C06_bytes_initial (c : Config) : (build c).w.bytesWritten = 0 := rfl

/-! ## `maxEndPts` is the largest presentation end over all accepted samples -/

/-- per track (`trackEnds`: the list of `min (pts + duration) u64::MAX` over the samples) -/
theorem C06_trackEnd {strict : Bool} {rev : List Sample} {prev ld : Option Nat}
    (h : TrackInv strict rev prev ld) :
    (rev = [] → trackEnd rev ld = none) ∧
    (rev ≠ [] → ∃ m, trackEnd rev ld = some m ∧ m ∈ trackEnds rev ld ∧ ∀ e ∈ trackEnds rev ld, e ≤ m) :=
  max?_spec (trackEnd_eq_max? h) trackEnds_eq_nil

/-- the durations entering the presentation ends are the file's sample durations (C03) when the
    track has two or more samples; a lone sample counts with duration 0 (the file gives it 1) -/
theorem C06_trackEnds_durations {strict : Bool} {rev : List Sample} {prev ld : Option Nat}
    (h : TrackInv strict rev prev ld) :
    (2 ≤ rev.length → trackEnds rev ld =
      List.zipWith (fun s d => min (s.pts + d) u64Max) rev.reverse (durationsOf rev.reverse ld)) ∧
    (∀ s, rev = [s] → trackEnds rev ld = [min (s.pts + 0) u64Max]) := by
  constructor
  · intro h2
    match rev, h, h2 with
    | s :: t :: r, h, _ =>
      rw [TrackInv_durations h, trackEnds, h.ld_eq]; rfl
  · rintro s rfl
    rw [trackEnds, h.ld_eq]; simp [dtsOf, deltas, lastDeltaOf]

/-- both tracks: `maxEndPts` is `none` iff nothing was accepted; otherwise it is the maximum of the
    presentation ends of all samples of both tracks, in ticks, exactly -/
theorem C06_maxend (w : Writer) (hv : VInv w) (ha : AInv w) :
    (w.vsRev = [] ∧ w.asRev = [] → w.maxEndPts = none) ∧
    (¬ (w.vsRev = [] ∧ w.asRev = []) → ∃ m, w.maxEndPts = some m ∧
      m ∈ trackEnds w.vsRev w.vLastDelta ++ trackEnds w.asRev w.aLastDelta ∧
      ∀ e ∈ trackEnds w.vsRev w.vLastDelta ++ trackEnds w.asRev w.aLastDelta, e ≤ m) :=
  max?_spec (maxEndPts_eq_max? hv ha) (by rw [List.append_eq_nil_iff, trackEnds_eq_nil, trackEnds_eq_nil])

end Muxide.Props.C06
