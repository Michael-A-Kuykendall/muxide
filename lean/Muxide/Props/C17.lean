import Muxide.Lemmas.ApiCalls
/-
  C17 — Output is a pure function of the call sequence; equivalent API paths agree.

  The model is a function by construction, so "no hidden state" is not a statement about the
  model; it is what the correspondence run checks on the Rust code (same history on a fresh
  instance, on another thread, on 16 concurrent threads, through Vec / Cursor / File / scripted
  sinks, after polluting the thread-local invariant log — all must reproduce the MODEL's bytes;
  the auto-trait clause is decided by rustc on harness-autotraits). What the model carries are the
  path equivalences below.
-/
namespace Muxide.Props.C17
open Muxide

/-- `finish` ≡ `finish_with_stats` ≡ the in-place forms ≡ `flush`: same state, same chunks handed
    to the sink; only the reply differs (`ok` instead of the statistics) -/
theorem C17_finish_paths (m : Muxer) (d : Deliver) :
    (m.finish d).1 = (m.finishStats d).1 ∧ (m.finish d).2.1 = (m.finishStats d).2.1 ∧
    ((m.finish d).2.2 = .ok ↔ ∃ st, (m.finishStats d).2.2 = .stats st) := by
  rw [Muxer.finish_eq]
  refine ⟨rfl, rfl, ?_⟩
  -- `finishStats` itself never replies `ok`
  have := m.finishStats_ne_ok d
  cases hr : (m.finishStats d).2.2 <;> simp [Reply.dropStats, hr] at this ⊢

/-- audio codec `None` ≡ no audio configured -/
theorem C17_audio_none (codec : VCodec) (w h rate ch : Nat) (md : Option Metadata) (fast : Bool) :
    build ⟨codec, w, h, some ⟨rate, ch, .none⟩, md, fast⟩ = build ⟨codec, w, h, none, md, fast⟩ := by
  simp [build]

/-- the convenience write is the explicit write at the accumulated timestamp with the detected
    key flag — by definition of the model (mirroring `encode_video` / `encode_audio`) -/
theorem C17_encode_is_write (m : Muxer) (d : Bytes) (ms : Nat) :
    (m.encodeVideo d ms).2 = (m.writeVideo m.curV d (m.isKeyframe d)).2 ∧
    (m.encodeVideo d ms).1.w = (m.writeVideo m.curV d (m.isKeyframe d)).1.w :=
  (m.encodeVideo_via d ms).symm

theorem C17_encode_audio_is_write (m : Muxer) (d : Bytes) (n : Nat) (h : m.audioTrack.isSome) :
    (m.encodeAudio d n).2 = (m.writeAudio m.curA d).2 ∧ (m.encodeAudio d n).1.w = (m.writeAudio m.curA d).1.w := by
  obtain ⟨a, ha⟩ := Option.isSome_iff_exists.mp h
  have hv := m.encodeAudio_via d n
  rw [ha] at hv
  exact hv.symm

/-- the writer sees timestamps only through the tick conversion: an accepted `write_video` at
    `pts` queues exactly what the inner writer queues for `(pts.ticks, pts.ticks)` -/
theorem C17_ticks_only (m : Muxer) (pts : F64) (d : Bytes) (k : Bool) (h : (m.writeVideo pts d k).2 = .ok) :
    (m.writeVideo pts d k).1.w = (m.w.writeVideo pts.ticks pts.ticks d k).1 := by
  rcases m.writeVideo_cases pts d k with ⟨_, _, hr⟩ | ⟨_, he, hr⟩
  · rw [hr] at h; cases h
  · rw [hr, Writer.writeVideo_eq, he]; rfl

/-- the file and the statistics are a function of the writer state and the configuration only:
    two muxers that agree on those produce identical finish results (whatever else differs —
    accumulators, last-timestamp bookkeeping, frame counters) -/
theorem C17_finish_function_of_writer (m m' : Muxer) (d : Deliver)
    (hw : m.w = m'.w) (hwd : m.width = m'.width) (hh : m.height = m'.height) (hmd : m.md = m'.md)
    (hfast : m.fast = m'.fast) (hfin : m.finished = m'.finished) :
    (m.finishStats d).2 = (m'.finishStats d).2 := by
  cases hf : m.finished with
  | true => rw [m.finishStats_finished d hf, m'.finishStats_finished d (hfin ▸ hf)]
  | false => rw [m.finishStats_eq d hf, m'.finishStats_eq d (hfin ▸ hf), hw, hwd, hh, hmd, hfast]

end Muxide.Props.C17
