import Muxide.Lemmas.E2E
import Muxide.Props.C08
import Muxide.Props.C16
/-
  C01 (end to end, the file) — what `Writer.finalize` writes, as the end-to-end theorems speak of
  it: the file, the moov in it, the position of the media data; its layout as serialised
  top-level boxes (from C08); the chunk offsets fit their 32-bit fields (from C16); and what the
  reader is going to find in it (`Decoded`). The theorems about reading it back are in
  Props/C01E2E.lean, the reader's complete record in Lemmas/E2E2.lean.
-/
namespace Muxide.Props.C01E2E
open Muxide Muxide.Spec Muxide.Props.C08

/-! ### what is written -/

/-- the video configuration `finalize` uses -/
def vcOf (w : Writer) : VideoConfig := w.vConfig.getD (.avc defaultAvc)

/-- absolute file position of the first media byte: after `ftyp` and the mdat header, and in the
    fast-start layout also after the moov (whose length does not depend on the offset values) -/
def mediaStart (w : Writer) (width height : Nat) (md : Option Metadata) (fast : Bool) : Nat :=
  if fast then ftypLen + (moovOf w width height md (vcOf w) (placeholderOffsets w)).ser.length + 8
  else ftypLen + 8

/-- the moov that `finalize` writes -/
def writtenMoov (w : Writer) (width height : Nat) (md : Option Metadata) (fast : Bool) : Box :=
  moovOf w width height md (vcOf w) (offsetsAt w (mediaStart w width height md fast))

/-- the hypothesis of the end-to-end theorems: the moov that is written fits a 32-bit box size.
    (Not checked by the writer; an oversized moov would be written with a wrapped size field.) -/
def MoovFits (w : Writer) (width height : Nat) (md : Option Metadata) (fast : Bool) : Prop :=
  Box.size (writtenMoov w width height md fast) < 2^32

/-- the file: all chunks handed to the sink, concatenated -/
def fileOf (w : Writer) (width height : Nat) (md : Option Metadata) (fast : Bool) : Bytes :=
  (w.finalize width height md fast).2.chunks.flatten

/-- the media data as one byte string -/
def payloadOf (w : Writer) : Bytes := (mediaChunks w).flatten

theorem payloadOf_length (w : Writer) : (payloadOf w).length = payloadLen w :=
  mediaChunks_flatten_length w

theorem shape_moovOf (w : Writer) (width height : Nat) (md : Option Metadata) (vc : VideoConfig)
    (o : List Nat × List Nat) : Shape isoSchema (moovOf w width height md vc o) :=
  moovOf_shape w width height md vc o

theorem moovOf_typ (w : Writer) (width height : Nat) (md : Option Metadata) (vc : VideoConfig)
    (o : List Nat × List Nat) : (moovOf w width height md vc o).typ = ascii "moov" := by
  unfold moovOf
  cases w.audio <;> rfl

/-- the header chunks and the media chunks are the serialised mdat box -/
theorem mdat_chunks (w : Writer) (rest : Bytes) :
    (mdatHeader (payloadLen w)).flatten ++ ((mediaChunks w).flatten ++ rest) =
      (mdatBox (payloadOf w)).ser ++ rest :=
  mdat_flatten w rest

/-- Layout of the finished file, as serialised top-level boxes, together with the C08 read-back
    fact for the offsets counted from `mediaStart`. -/
theorem file_layout (w : Writer) (hr : w.Reachable) (width height : Nat) (md : Option Metadata)
    (fast : Bool) (hok : (w.finalize width height md fast).2.res = .ok) :
    let file := fileOf w width height md fast
    let moov := writtenMoov w width height md fast
    ReadsBack w file (offsetsAt w (mediaStart w width height md fast)) ∧
    8 + (payloadOf w).length ≤ u32Max ∧
    (if fast then file = Box.sers [bFtyp, moov, mdatBox (payloadOf w)]
     else if w.audio = none ∧ w.vsRev = [] then file = Box.sers [bFtyp, moov]
     else file = Box.sers [bFtyp, mdatBox (payloadOf w), moov]) := by
  intro file moov
  obtain ⟨hv, ha, _, hinv⟩ := hr.inv.ordered
  obtain ⟨hm, hc⟩ := finalize_flatten hok (fun _ => hinv)
  have hfile : file = (w.finalize width height md fast).2.chunks.flatten := rfl
  refine ⟨?_, hm, ?_⟩
  · rw [hfile, (finalize_ok hok).out]
    rw [(finalize_ok hok).out] at hok
    cases fast with
    | false =>
      rw [layoutOut_false] at hok ⊢
      exact C08_standard_offsets_correct w width height md (vcOf w) hv ha hok
    | true =>
      rw [layoutOut_true] at hok ⊢
      exact faststart_readsBack w width height md (vcOf w) hinv hv ha hok
  · rw [hfile, hc]
    cases fast with
    | false => rw [if_neg Bool.false_ne_true, if_neg Bool.false_ne_true]; split <;> rfl
    | true => rw [if_pos rfl, if_pos rfl]; rfl

/-- every chunk offset that is written fits its 32-bit `stco` field (C16 chunk-offset guards,
    restated for `offsetsAt … mediaStart`) -/
theorem offsets_fit (w : Writer) (width height : Nat) (md : Option Metadata)
    (fast : Bool) (hok : (w.finalize width height md fast).2.res = .ok) :
    (∀ x ∈ (offsetsAt w (mediaStart w width height md fast)).1, x < 2^32) ∧
    (∀ x ∈ (offsetsAt w (mediaStart w width height md fast)).2, x < 2^32) := by
  rw [(finalize_ok hok).out] at hok
  cases fast with
  | false => rw [layoutOut_false] at hok; exact offsetsAt_lt (finalizeStandard_ok hok).maxOffset
  | true => rw [layoutOut_true] at hok; exact offsetsAt_lt (finalizeFastStart_ok hok).offsets

theorem toI32_range (n : Nat) (h : n < 2^32) : -(2^31 : Int) ≤ toI32 n ∧ toI32 n < 2^31 :=
  Muxide.toI32_range n h

theorem keyframesOf_length_le (vs : List Sample) : (keyframesOf vs).length ≤ vs.length := by
  unfold keyframesOf
  rw [List.length_map]
  refine Nat.le_trans (List.length_filter_le _ _) ?_
  simp

/-- the `stsc` table of a track with `n` samples: empty for an empty track, else one run -/
def stscOf (n spc : Nat) : List (Nat × Nat × Nat) := if n = 0 then [] else [(1, spc, 1)]

/-- samples per chunk of the video track: one with an audio track (interleaved), else all -/
def spcOf (w : Writer) : Nat := if w.audio.isSome then 1 else w.vsRev.length

/-- the sync-sample table: absent iff there is no key frame -/
def stssOf (vs : List Sample) : Option (List Nat) :=
  if keyframesOf vs ≠ [] then some (keyframesOf vs) else none

/-- what the reader decodes from the finished file, in terms of the writer state -/
structure Decoded (w : Writer) (width height : Nat) (md : Option Metadata) (fast : Bool) (mv : Movie) : Prop where
  count : mv.tracks.length = if w.audio.isSome then 2 else 1
  video : ∃ vt, mv.tracks[0]? = some vt ∧
    TrackTables vt (stscOf w.vsRev.length (spcOf w)) (w.vsRev.reverse.map (·.data.length))
      (offsetsAt w (mediaStart w width height md fast)).1 (stssOf w.vsRev.reverse)
  audio : ∀ tr, w.audio = some tr → ∃ at_, mv.tracks[1]? = some at_ ∧
    TrackTables at_ (stscOf w.asRev.length 1) (w.asRev.reverse.map (·.data.length))
      (offsetsAt w (mediaStart w width height md fast)).2 none

end Muxide.Props.C01E2E
