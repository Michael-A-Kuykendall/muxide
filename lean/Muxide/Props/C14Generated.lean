import Muxide.Generated.Nal
import Muxide.Lemmas.Framing
/-
  C14 (mechanical tie) — the two re-framing functions `annexb_to_avcc` (src/codec/h264.rs) and
  `hevc_annexb_to_hvcc` (src/codec/h265.rs), translated from the Rust source by tools/rs2lean_nal.py on every
  check run, are the model's `toAvcc` for every byte string: each non-empty unit of the access unit preceded by
  its length as a 32-bit big-endian integer, in order, and the whole input as one unit when it has none.
  `C14_frame_roundtrip` (Props/C14.lean) says what that byte string parses back to.
-/
namespace Muxide.Props.C14Generated
open Muxide Muxide.Generated.Nal

theorem u32be_mod' (n : Nat) : u32be (n % 2 ^ 32) = u32be n := (u32be_mod n).symm

theorem u32be_mod_lit (n : Nat) : u32be (n % 4294967296) = u32be n := u32be_mod' n

theorem avcc_loop (ns : List Bytes) : ∀ out : Bytes,
    H264.annexb_to_avcc.loop ns out = out ++ (ns.filter (· ≠ [])).flatMap fun n => u32be n.length ++ n :=
  lpLoop_eq _ (fun _ => rfl) (fun _ _ _ => rfl) ns

theorem hvcc_loop (ns : List Bytes) : ∀ out : Bytes,
    H265.hevc_annexb_to_hvcc.loop ns out = out ++ (ns.filter (· ≠ [])).flatMap fun n => u32be n.length ++ n :=
  lpLoop_eq _ (fun _ => rfl) (fun _ _ _ => rfl) ns

/-- `annexb_to_avcc(data)` is the model's re-framing -/
theorem C14_gen_annexb_to_avcc (d : Bytes) : H264.annexb_to_avcc d = toAvcc d := by
  unfold H264.annexb_to_avcc toAvcc
  simp only [avcc_loop, List.nil_append, u32be_mod']
  split <;> rename_i h
  · rw [h.1]; simp
  · rfl

/-- `hevc_annexb_to_hvcc(data)` is the same re-framing -/
theorem C14_gen_hevc_annexb_to_hvcc (d : Bytes) : H265.hevc_annexb_to_hvcc d = toAvcc d := by
  unfold H265.hevc_annexb_to_hvcc toAvcc
  simp only [hvcc_loop, List.nil_append, u32be_mod']
  split <;> rename_i h
  · rw [h.1]; simp
  · rfl

end Muxide.Props.C14Generated
