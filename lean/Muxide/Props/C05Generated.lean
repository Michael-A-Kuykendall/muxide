import Muxide.Generated.Writer
import Muxide.Lemmas.Api
/-
  C05 / C04 / C03 / C01 (mechanical tie, writer) — Muxide.Generated.Writer is produced by tools/rs2lean_writer.py from the
  Rust source of `Mp4Writer::write_video_sample_with_dts` and `Mp4Writer::write_audio_sample` on every check run.
  The theorems state that the translated functions are the hand-written `Writer.writeVideo` / `Writer.writeAudio`
  for every writer state and every argument, so the refusal theorems (C05_*), the acceptance characterisations
  (C04_video_iff, C04_audio_iff), the timing invariants (C03_*) and the history forms (C01_history, C03_history_*)
  are statements about the translated source.
-/
namespace Muxide.Props.C05Generated
open Muxide Muxide.Generated.Writer

theorem extract_cfg (codec : VCodec) (data : Bytes) :
    (match codec with
      | .h264 => (extract_avc_config data).map VideoConfig.avc
      | .h265 => (extract_hevc_config data).map VideoConfig.hevc
      | .av1 => (extract_av1_config data).map VideoConfig.av1
      | .vp9 => (extract_vp9_config data).map VideoConfig.vp9) =
    (match extractConfig codec data with | .some c => some c | .none => none) := by
  cases codec <;> simp only [extractConfig, extract_av1_config, extract_avc_config, extract_hevc_config, extract_vp9_config]
  · cases extractAvc data <;> rfl
  · cases extractHevc data <;> rfl
  · cases extractAv1 data <;> rfl
  · cases extractVp9 data <;> rfl

theorem convert_eq (codec : VCodec) (data : Bytes) :
    (match codec with
      | .h264 => annexb_to_avcc data | .h265 => hevc_annexb_to_hvcc data | .av1 => data | .vp9 => data) =
    convertPayload codec data := by
  cases codec <;> rfl

/-- `write_video_sample_with_dts` = the model's `Writer.writeVideo`, for every state and every argument -/
theorem C05_gen_write_video (w : Writer) (pts dts : Nat) (data : Bytes) (key : Bool) :
    write_video_sample_with_dts w pts dts data key = w.writeVideo pts dts data key := by
  obtain ⟨codec, vs, vp, vld, vc, au, as, ap, ald, fin, bw⟩ := w
  unfold write_video_sample_with_dts Writer.writeVideo
  refine ite_congr rfl (fun _ => rfl) fun _ => ?_
  cases vp with
  | some prev =>
    dsimp only
    by_cases h1 : dts ≤ prev
    · rw [if_pos h1, if_pos h1]
    rw [if_neg h1, if_neg h1]
    by_cases h2 : dts - prev > u32Max
    · rw [if_pos h2, if_pos h2]
    -- below the guard the cast `delta as u32` changes nothing; what follows is the same computation
    rw [if_neg h2, if_neg h2, Nat.mod_eq_of_lt (by unfold u32Max at h2; omega)]
    cases codec <;> rfl
  | none =>
    cases key with
    | false => rfl
    | true =>
      unfold extractConfig extract_avc_config extract_hevc_config extract_av1_config extract_vp9_config
      cases codec
      · cases extractAvc data <;> rfl
      · cases extractHevc data <;> rfl
      · cases extractAv1 data <;> rfl
      · cases extractVp9 data <;> rfl

/-- the payload part of `write_audio_sample` (after the timestamp checks), by cases on the audio codec -/
macro "audio_payload_cases" data:ident ac:ident : tactic => `(tactic| (
  cases $ac:ident with
  | aac p =>
    simp only [adts_to_raw]
    obtain ⟨r, h⟩ | ⟨k, h⟩ : (∃ r, adtsToRaw $data = .ok r) ∨ (∃ k, adtsToRaw $data = .error k) := by
      cases adtsToRaw $data <;> simp
    · simp only [h]; try (first | rfl | (split <;> rfl))
    · simp only [h]
  | opus =>
    simp only [is_valid_opus_packet]
    by_cases hv : isValidOpus $data = true
    · simp only [hv, not_true_eq_false, if_false, if_true]; try (first | rfl | (split <;> rfl))
    · simp only [hv, not_false_eq_true, if_true, Bool.false_eq_true, if_false]
  | none => rfl))

/-- `write_audio_sample` = the model's `Writer.writeAudio`, for every state and every argument -/
theorem C05_gen_write_audio (w : Writer) (pts : Nat) (data : Bytes) :
    write_audio_sample w pts data = w.writeAudio pts data := by
  obtain ⟨codec, vs, vp, vld, vc, au, as, ap, ald, fin, bw⟩ := w
  unfold write_audio_sample Writer.writeAudio adts_to_raw is_valid_opus_packet
  refine ite_congr rfl (fun _ => rfl) fun _ => ?_
  cases au with
  | none => rfl
  | some tr =>
    obtain ⟨sr, ch, ac⟩ := tr
    cases ap with
    | some prev =>
      dsimp only
      by_cases h1 : pts < prev
      · rw [if_pos h1, if_pos h1]
      rw [if_neg h1, if_neg h1]
      by_cases h2 : pts - prev > u32Max
      · rw [if_pos h2, if_pos h2]
      rw [if_neg h2, if_neg h2, Nat.mod_eq_of_lt (by unfold u32Max at h2; omega)]
      cases ac with
      | none => rfl
      | opus => cases isValidOpus data <;> rfl
      | aac p => cases adtsToRaw data <;> rfl
    | none =>
      cases ac with
      | none => rfl
      | opus => cases isValidOpus data <;> rfl
      | aac p => cases adtsToRaw data <;> rfl

/-- the translated `write_video_sample_with_dts`: any outcome other than Ok leaves the writer exactly as it was -/
theorem C05_gen_video_refusal_no_trace (w : Writer) (pts dts : Nat) (d : Bytes) (k : Bool)
    (h : (write_video_sample_with_dts w pts dts d k).2 ≠ .ok) : (write_video_sample_with_dts w pts dts d k).1 = w := by
  rw [C05_gen_write_video] at h ⊢; exact Writer.writeVideo_not_ok w pts dts d k h

/-- the translated `write_audio_sample`: any outcome other than Ok leaves the writer exactly as it was -/
theorem C05_gen_audio_refusal_no_trace (w : Writer) (pts : Nat) (d : Bytes)
    (h : (write_audio_sample w pts d).2 ≠ .ok) : (write_audio_sample w pts d).1 = w := by
  rw [C05_gen_write_audio] at h ⊢; exact Writer.writeAudio_not_ok w pts d h

/-- non-vacuity: a refused call exists (a non-key first frame), and so does an accepted one (a second VP9 frame) -/
example : (write_video_sample_with_dts { codec := .vp9 } 0 0 [1] false).2 = .err .firstFrameMustBeKeyframe := by decide
example : (write_video_sample_with_dts { codec := .vp9, vPrev := some 0 } 3000 3000 [1] false).2 = .ok := by decide

end Muxide.Props.C05Generated
