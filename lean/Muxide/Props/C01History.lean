import Muxide.Props.C01E2E
import Muxide.Props.C14
/-
  C01 (history form) — C01_e2e speaks about a reachable writer *state*: what is read back from the file is
  what sits in the writer's queues.  This file closes the remaining step to the property's own words:
  "every frame the muxer ACCEPTED, in submission order, resolves to exactly the bytes SUBMITTED (after the
  re-framing of C14)".  For every sequence of write calls on a fresh writer, the samples read back from the
  finished file by the independent reader are, one for one and in order,
    * video: (re-framed submitted bytes, submitted key flag) of the calls answered `ok`,
    * audio: the raw payload of the submitted frame (ADTS header stripped / Opus packet as is) of the calls
      answered `ok`,
  and nothing else.  The re-framing is `convertPayload`, whose content C14 characterises
  (`C14_frame_roundtrip`: it parses back to the units of the submitted access unit).
-/
namespace Muxide.Props.C01History
open Muxide Muxide.Spec Muxide.Props.C01E2E

/-- a frame-writing call on the writer, with what was submitted -/
inductive WCall where
  | video (pts dts : Nat) (data : Bytes) (key : Bool)
  | audio (pts : Nat) (data : Bytes)
deriving Repr, DecidableEq

def wstep (w : Writer) : WCall → Writer × WRes
  | .video pts dts data key => w.writeVideo pts dts data key
  | .audio pts data => w.writeAudio pts data

/-- run a history; the replies are returned in call order -/
def wrun (w : Writer) : List WCall → Writer × List WRes
  | [] => (w, [])
  | c :: cs =>
    let (w1, r) := wstep w c
    let (w2, rs) := wrun w1 cs
    (w2, r :: rs)

/-- what an accepted audio frame is stored as: the ADTS payload, or the Opus packet itself -/
def audioPayload (tr : AudioTrack) (data : Bytes) : Option Bytes :=
  match tr.codec with
  | .aac _ => match adtsToRaw data with
              | .ok r => some r
              | .error _ => none
  | .opus => if isValidOpus data then some data else none
  | .none => none

/-- (pts, dts, stored bytes, key flag) of the accepted video calls of a history, in call order -/
def acceptedVideo (codec : VCodec) : List WCall → List WRes → List (Nat × Nat × Bytes × Bool)
  | .video pts dts data key :: cs, .ok :: rs => (pts, dts, convertPayload codec data, key) :: acceptedVideo codec cs rs
  | _ :: cs, _ :: rs => acceptedVideo codec cs rs
  | _, _ => []

/-- (pts, stored bytes) of the accepted audio calls of a history, in call order -/
def acceptedAudio (tr : Option AudioTrack) : List WCall → List WRes → List (Nat × Bytes)
  | .audio pts data :: cs, .ok :: rs =>
    (pts, match tr with
     | some t => (audioPayload t data).getD []
     | none => []) :: acceptedAudio tr cs rs
  | _ :: cs, _ :: rs => acceptedAudio tr cs rs
  | _, _ => []

/-! ### one call -/

/-- what is read back of a queued video sample / audio sample -/
def vproj (s : Sample) : Nat × Nat × Bytes × Bool := (s.pts, s.dts, s.data, s.key)
def aproj (s : Sample) : Nat × Bytes := (s.pts, s.data)

theorem setLastDur_map_dk (rev : List Sample) (d : Nat) : (setLastDur rev d).map vproj = rev.map vproj :=
  map_setLastDur vproj (fun _ _ => rfl) rev d

theorem setLastDur_map_data (rev : List Sample) (d : Nat) : (setLastDur rev d).map aproj = rev.map aproj :=
  map_setLastDur aproj (fun _ _ => rfl) rev d

/-- an accepted video call pushes (re-framed bytes, flag) and touches nothing else that is read back -/
theorem writeVideo_ok (w : Writer) (pts dts : Nat) (data : Bytes) (key : Bool)
    (h : (w.writeVideo pts dts data key).2 = .ok) :
    let w' := (w.writeVideo pts dts data key).1
    w'.vsRev.map vproj = (pts, dts, convertPayload w.codec data, key) :: w.vsRev.map vproj ∧
    w'.asRev = w.asRev ∧ w'.codec = w.codec ∧ w'.audio = w.audio := by
  obtain ⟨-, vc, e⟩ := Writer.writeVideo_ok h
  rw [e]
  exact ⟨congrArg (_ :: ·) (map_pushRev vproj (fun _ _ => rfl) _ _ _), rfl, rfl, rfl⟩

/-- the stored payload in the words of this file: the conversion of `write_audio_sample`
    (Lemmas/Api), its error forgotten -/
theorem audioPayload_eq (tr : AudioTrack) (data : Bytes) :
    audioPayload tr data = (Muxide.audioPayload tr.codec data).toOption := by
  unfold audioPayload Muxide.audioPayload
  cases tr.codec with
  | aac p =>
    dsimp only
    cases adtsToRaw data <;> rfl
  | opus =>
    dsimp only
    split <;> rfl
  | none => rfl

/-- an accepted audio call pushes the raw payload of the submitted frame -/
theorem writeAudio_ok (w : Writer) (pts : Nat) (data : Bytes) (h : (w.writeAudio pts data).2 = .ok) :
    let w' := (w.writeAudio pts data).1
    ∃ tr sd, w.audio = some tr ∧ audioPayload tr data = some sd ∧
      w'.asRev.map aproj = (pts, sd) :: w.asRev.map aproj ∧
      w'.vsRev = w.vsRev ∧ w'.codec = w.codec ∧ w'.audio = w.audio := by
  obtain ⟨he, e⟩ := Writer.writeAudio_ok h
  obtain ⟨-, ⟨tr, ha, hsd⟩, -⟩ := Writer.audioErr_none he
  rw [e]
  exact ⟨tr, _, ha, by rw [audioPayload_eq, hsd]; rfl,
    congrArg (_ :: ·) (map_pushRev aproj (fun _ _ => rfl) _ _ _), rfl, rfl, rfl⟩

/-! ### a history -/

theorem wrun_cons (w : Writer) (c : WCall) (cs : List WCall) :
    wrun w (c :: cs) = ((wrun (wstep w c).1 cs).1, (wstep w c).2 :: (wrun (wstep w c).1 cs).2) := rfl

theorem accepted_cons (codec : VCodec) (tr : Option AudioTrack) (c : WCall) (cs : List WCall) (r : WRes)
    (rs : List WRes) :
    acceptedVideo codec (c :: cs) (r :: rs) = acceptedVideo codec [c] [r] ++ acceptedVideo codec cs rs ∧
    acceptedAudio tr (c :: cs) (r :: rs) = acceptedAudio tr [c] [r] ++ acceptedAudio tr cs rs := by
  cases c <;> cases r <;> exact ⟨rfl, rfl⟩

/-- one call: a refused call changes nothing and contributes nothing; an accepted one appends its
    stored form to the queue of its track -/
theorem wstep_queues (w : Writer) (c : WCall) :
    let r := wstep w c
    r.1.vsRev.reverse.map vproj = w.vsRev.reverse.map vproj ++ acceptedVideo w.codec [c] [r.2] ∧
    r.1.asRev.reverse.map aproj = w.asRev.reverse.map aproj ++ acceptedAudio w.audio [c] [r.2] ∧
    r.1.codec = w.codec ∧ r.1.audio = w.audio := by
  cases c with
  | video pts dts data key =>
    rcases w.writeVideo_cases pts dts data key with ⟨e, -, h⟩ | ⟨-, h⟩ <;>
      rw [show wstep w (.video pts dts data key) = _ from h]
    · exact ⟨(List.append_nil _).symm, (List.append_nil _).symm, rfl, rfl⟩
    · obtain ⟨vc, e⟩ := w.videoPush_eq pts dts data key
      rw [e]
      refine ⟨?_, (List.append_nil _).symm, rfl, rfl⟩
      rw [List.map_reverse, List.map_cons, map_pushRev vproj (fun _ _ => rfl), List.reverse_cons,
        List.map_reverse]
      rfl
  | audio pts data =>
    rcases w.writeAudio_cases pts data with ⟨e, -, h⟩ | ⟨he, h⟩ <;>
      rw [show wstep w (.audio pts data) = _ from h]
    · exact ⟨(List.append_nil _).symm, (List.append_nil _).symm, rfl, rfl⟩
    · obtain ⟨-, ⟨tr, htr, hsd⟩, -⟩ := Writer.audioErr_none he
      rw [Writer.audioPush_eq]
      refine ⟨(List.append_nil _).symm, ?_, rfl, rfl⟩
      rw [List.map_reverse, List.map_cons, map_pushRev aproj (fun _ _ => rfl), List.reverse_cons,
        List.map_reverse, htr]
      simp only [acceptedAudio, audioPayload_eq, hsd]
      rfl

/-- what a history leaves in the queues: the stored forms of the accepted calls, appended in call order -/
theorem wrun_queues (cs : List WCall) : ∀ (w : Writer),
    let r := wrun w cs
    r.1.vsRev.reverse.map vproj = w.vsRev.reverse.map vproj ++ acceptedVideo w.codec cs r.2 ∧
    r.1.asRev.reverse.map aproj = w.asRev.reverse.map aproj ++ acceptedAudio w.audio cs r.2 ∧
    r.1.codec = w.codec ∧ r.1.audio = w.audio := by
  induction cs with
  | nil => intro w; simp [wrun, acceptedVideo, acceptedAudio]
  | cons c cs ih =>
    intro w
    obtain ⟨s1, s2, s3, s4⟩ := wstep_queues w c
    obtain ⟨i1, i2, i3, i4⟩ := ih (wstep w c).1
    obtain ⟨a1, a2⟩ := accepted_cons w.codec w.audio c cs (wstep w c).2 (wrun (wstep w c).1 cs).2
    rw [wrun_cons]
    refine ⟨?_, ?_, i3.trans s3, i4.trans s4⟩
    · rw [a1, i1, s1, s3, List.append_assoc]
    · rw [a2, i2, s2, s4, List.append_assoc]

/-- what every call keeps, a history keeps -/
theorem wrun_induction {P : Writer → Prop}
    (video : ∀ w pts dts data key, P w → P (w.writeVideo pts dts data key).1)
    (audio : ∀ w pts data, P w → P (w.writeAudio pts data).1) (cs : List WCall) :
    ∀ (w : Writer), P w → P (wrun w cs).1 := by
  induction cs with
  | nil => intro w h; exact h
  | cons c cs ih =>
    intro w h
    cases c with
    | video pts dts data key => exact ih _ (video w pts dts data key h)
    | audio pts data => exact ih _ (audio w pts data h)

theorem wrun_reachable (cs : List WCall) : ∀ (w : Writer), w.Reachable → (wrun w cs).1.Reachable :=
  wrun_induction (fun _ pts dts data key => .video pts dts data key) (fun _ pts data => .audio pts data) cs

/-! ### the property, for every history -/

/-- the queues of the writer a history leads to, in terms of what was submitted -/
theorem wrun_fresh (codec : VCodec) (a : Option AudioTrack) (cs : List WCall) :
    let r := wrun { codec := codec, audio := a } cs
    r.1.vsRev.reverse.map vproj = acceptedVideo codec cs r.2 ∧
    r.1.asRev.reverse.map aproj = acceptedAudio a cs r.2 ∧ r.1.audio = a ∧ r.1.Reachable := by
  obtain ⟨q1, q2, -, q4⟩ := wrun_queues cs { codec := codec, audio := a }
  refine ⟨?_, ?_, q4, wrun_reachable cs _ (Writer.Reachable.init codec a)⟩
  · simpa using q1
  · simpa using q2

/-- **C01 for every history.** Take a fresh writer (any codec, with or without an audio track), any sequence
    of write calls, then a successful `finalize` in either layout.  The independent reader finds a movie in
    the bytes handed to the sink whose first track yields, in order, exactly (re-framed submitted bytes,
    submitted key flag) of the accepted video calls, and whose second track (when audio is configured) yields
    exactly the raw payloads of the accepted audio calls — no frame lost, duplicated, reordered or altered. -/
theorem C01_history (codec : VCodec) (a : Option AudioTrack) (cs : List WCall)
    (width height : Nat) (md : Option Metadata) (fast : Bool) :
    let w0 : Writer := { codec := codec, audio := a }
    let r := wrun w0 cs
    (r.1.finalize width height md fast).2.res = .ok →
    MoovFits r.1 width height md fast →
    let file := (r.1.finalize width height md fast).2.chunks.flatten
    ∃ mv vt, parseMovie file = some mv ∧ mv.tracks.length = (if a.isSome then 2 else 1) ∧
      mv.tracks[0]? = some vt ∧
      (vt.samples file).map (fun s => (s.1, s.2.1)) = (acceptedVideo codec cs r.2).map (fun p => (p.2.2.1, p.2.2.2)) ∧
      (∀ tr, a = some tr → ∃ at_, mv.tracks[1]? = some at_ ∧
        (at_.samples file).map (·.1) = (acceptedAudio a cs r.2).map (·.2)) := by
  intro w0 r hok hfit file
  obtain ⟨q1, q2, q4, hreach⟩ := wrun_fresh codec a cs
  obtain ⟨mv, vt, hmv, hcount, hvt, hvs, haud⟩ := C01_e2e r.1 hreach width height md fast hok hfit
  have q4' : r.1.audio = a := q4
  refine ⟨mv, vt, hmv, q4' ▸ hcount, hvt, ?_, fun tr htr => ?_⟩
  · rw [hvs, show acceptedVideo codec cs r.2 = r.1.vsRev.reverse.map vproj from q1.symm, List.map_map]
    rfl
  · obtain ⟨at_, hat, hsamp⟩ := haud tr (q4'.trans htr)
    refine ⟨at_, hat, ?_⟩
    rw [hsamp, show acceptedAudio a cs r.2 = r.1.asRev.reverse.map aproj from q2.symm, List.map_map]
    rfl

/-- the video half in the words of C14: each stored H.264/H.265 sample parses, as 4-byte length-prefixed
    units, to the units of the submitted access unit -/
theorem C01_history_units (data : Bytes) (h : ∀ u ∈ Muxide.Props.C14.modelUnits data, u.length < 2^32) :
    parseLengthPrefixed (convertPayload .h264 data) = some (Muxide.Props.C14.modelUnits data) ∧
    parseLengthPrefixed (convertPayload .h265 data) = some (Muxide.Props.C14.modelUnits data) ∧
    convertPayload .av1 data = data ∧ convertPayload .vp9 data = data :=
  ⟨Muxide.Props.C14.C14_frame_roundtrip data h, Muxide.Props.C14.C14_frame_roundtrip data h, rfl, rfl⟩

/-- non-vacuity: a two-frame VP9 history with a refused call in between (audio without an audio track) is
    accepted as stated, and the accepted frames are the two submitted ones -/
example :
    let k : Bytes := [73, 131, 66, 0, 128, 100, 100, 18, 146, 255, 255, 99, 25, 255]
    let cs := [WCall.video 0 0 k true, .audio 0 [1], .video 3000 3000 [73, 131, 66, 16, 128] false]
    ((wrun { codec := .vp9 } cs).2.map (fun r => decide (r = .ok))) = [true, false, true] ∧
    acceptedVideo .vp9 cs (wrun { codec := .vp9 } cs).2 = [(0, 0, k, true), (3000, 3000, [73, 131, 66, 16, 128], false)] := by
  decide +kernel

end Muxide.Props.C01History
