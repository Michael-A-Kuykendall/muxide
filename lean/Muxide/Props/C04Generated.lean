import Muxide.Generated.Guards
import Muxide.Props.C01Api
/-
  C04 (mechanical tie) — Muxide.Generated.Guards is produced by tools/rs2lean_guards.py from the Rust source
  of `Muxer::write_video`, `write_video_with_dts` and `write_audio` (src/api.rs) on every check run: the
  sequence of early returns at the head of each call, as "the first failing guard".  Each theorem states that
  the hand-written model makes the same decision for all muxer states and arguments: when the translated
  prefix names an error the model's call replies that error variant and leaves the muxer untouched, and when it
  names none the model's call goes on to the writer with the tick values of the submitted times
  (`C01Api.wvCall` …).  The contract theorems of Props/C04.lean are about the model; through these equalities
  the API-level part of the contract is about the translated source.
-/
namespace Muxide.Props.C04Generated
open Muxide Muxide.Generated.Guards Muxide.Props.C01Api

/-! ### the translated guard prefixes are the model's `wvPre` / `wvdPre` / `waPre`

One walk per call; everything below is read off the answer form of the call (`Muxer.*_answer`). -/

theorem firstSome_ite_cons {c : Prop} [Decidable c] {e : MErr} {r : List (Option MErr)} :
    firstSome ((if c then some e else none) :: r) = if c then some e else firstSome r := by
  split <;> rfl

theorem write_video_eq (m : Muxer) (pts : F64) (d : Bytes) : write_video m pts d = m.wvPre pts d := by
  simp only [write_video, firstSome_ite_cons, Muxer.wvPre]
  repeat refine ite_congr rfl (fun _ => rfl) (fun _ => ?_)
  cases m.lastVideoPts with
  | none => rfl
  | some p => exact firstSome_ite_cons

theorem write_video_with_dts_eq (m : Muxer) (pts dts : F64) (d : Bytes) :
    write_video_with_dts m pts dts d = (m.wvdPre pts dts d).map (·.1) := by
  simp only [write_video_with_dts, firstSome_ite_cons, Muxer.wvdPre, apply_ite (Option.map _), Option.map_some,
    Option.map_none]
  repeat refine ite_congr rfl (fun _ => rfl) (fun _ => ?_)
  cases m.lastVideoDts with
  | none => rfl
  | some p => exact firstSome_ite_cons

theorem write_audio_eq (m : Muxer) (pts : F64) (d : Bytes) :
    write_audio m pts d = (m.waPre pts d).map (·.1) := by
  simp only [write_audio, firstSome_ite_cons, Muxer.waPre, apply_ite (Option.map _), Option.map_some]
  repeat refine ite_congr rfl (fun _ => rfl) (fun _ => ?_)
  cases m.lastAudioPts <;> cases m.firstVideoPts <;>
    simp only [firstSome, firstSome_ite_cons, prevLt, apply_ite (Option.map _), Option.map_some, Option.map_none,
      Bool.false_eq_true, if_false] <;> rfl

/-- `write_video`: refused by the translated guards ⇒ the model replies that variant, state untouched -/
theorem C04_gen_write_video_refuses (m : Muxer) (pts : F64) (d : Bytes) (k : Bool) (e : MErr)
    (h : write_video m pts d = some e) : ∃ i, m.writeVideo pts d k = (m, .err e i) := by
  rw [write_video_eq] at h
  exact ⟨_, by rw [Muxer.writeVideo_answer, h]; rfl⟩

/-- `write_video`: the translated guards pass exactly when the model's call reaches the writer -/
theorem C04_gen_write_video_passes (m : Muxer) (pts : F64) (d : Bytes) (k : Bool) :
    write_video m pts d = none ↔ wvCall m pts d k = some (.video pts.ticks pts.ticks d k) := by
  rw [write_video_eq, wvCall_eq]
  cases m.wvPre pts d <;> simp

theorem C04_gen_write_video_dts_refuses (m : Muxer) (pts dts : F64) (d : Bytes) (k : Bool) (e : MErr)
    (h : write_video_with_dts m pts dts d = some e) : ∃ i, m.writeVideoDts pts dts d k = (m, .err e i) := by
  rw [write_video_with_dts_eq] at h
  obtain ⟨⟨e', i⟩, hp, rfl⟩ := Option.map_eq_some_iff.mp h
  exact ⟨i, by rw [Muxer.writeVideoDts_answer, hp]; rfl⟩

theorem C04_gen_write_video_dts_passes (m : Muxer) (pts dts : F64) (d : Bytes) (k : Bool) :
    write_video_with_dts m pts dts d = none ↔ wvdCall m pts dts d k = some (.video pts.ticks dts.ticks d k) := by
  rw [write_video_with_dts_eq, wvdCall_eq]
  cases m.wvdPre pts dts d <;> simp

theorem C04_gen_write_audio_refuses (m : Muxer) (pts : F64) (d : Bytes) (e : MErr)
    (h : write_audio m pts d = some e) : ∃ i, m.writeAudio pts d = (m, .err e i) := by
  rw [write_audio_eq] at h
  obtain ⟨⟨e', i⟩, hp, rfl⟩ := Option.map_eq_some_iff.mp h
  exact ⟨i, by rw [Muxer.writeAudio_answer, hp]; rfl⟩

theorem C04_gen_write_audio_passes (m : Muxer) (pts : F64) (d : Bytes) :
    write_audio m pts d = none ↔ waCall m pts d = some (.audio pts.ticks d) := by
  rw [write_audio_eq, waCall_eq]
  cases m.waPre pts d <;> simp

/-- `convert_mp4_error`: the translated table of "which API error a writer error becomes (and whether the frame
    index is reported)" is the model's `convertErr`, for every writer error and index — the "errors name the
    violation" half of C04 for refusals that come from the writer -/
theorem C04_gen_convert_error (e : WErr) (idx : Nat) : convert_mp4_error e idx = convertErr e idx := by
  cases e <;> rfl

/-- `encode_video`: the clock value as time stamp, the detected key flag, `write_video`, and the clock advanced by
    `duration_ms / 1000` only when the frame was accepted — the model's `Muxer.encodeVideo` for every state -/
theorem C04_gen_encode_video (m : Muxer) (d : Bytes) (ms : Nat) : encode_video m d ms = m.encodeVideo d ms := by
  unfold encode_video Muxer.encodeVideo
  dsimp only
  generalize m.writeVideo m.curV d (m.isKeyframe d) = x
  obtain ⟨m', r⟩ := x
  cases r <;> rfl

/-- `encode_audio`: refused without an audio track, else `write_audio` at the audio clock, which advances by
    `samples / sample_rate` only when the frame was accepted -/
theorem C04_gen_encode_audio (m : Muxer) (d : Bytes) (n : Nat) : encode_audio m d n = m.encodeAudio d n := by
  unfold encode_audio Muxer.encodeAudio
  cases ha : m.audioTrack with
  | none => simp
  | some a =>
    simp only [Option.isNone_some, Bool.false_eq_true, if_false, Option.map_some, Option.getD_some]
    generalize m.writeAudio m.curA d = x
    obtain ⟨m', r⟩ := x
    cases r <;> rfl

/-! ### the calls after their guards: tick conversion, writer call with error conversion, bookkeeping of an accepted frame -/

theorem tail_reply (r : WRes) (idx : Nat) (hr : r ≠ .ok) :
    (match r with | .err e => convert_mp4_error e idx | .panic => Reply.panic | .ok => Reply.ok) = wresReply r idx := by
  cases r with
  | ok => exact absurd rfl hr
  | err e => simp only [wresReply]; exact C04_gen_convert_error e idx
  | panic => rfl

theorem write_video_tail_eq (m : Muxer) (pts : F64) (d : Bytes) (k : Bool) :
    write_video_tail m pts d k =
      m.answer none (m.w.videoErr pts.ticks pts.ticks d k) m.vCount (m.pushVideo pts pts d k m.lastVideoDts) := by
  simp only [write_video_tail, Writer.writeVideo_eq]
  cases m.w.videoErr pts.ticks pts.ticks d k with
  | some e => exact congrArg (Prod.mk m) (C04_gen_convert_error e _)
  | none => cases hf : m.firstVideoPts <;> simp [Muxer.answer, Muxer.pushVideo, hf]

theorem write_video_with_dts_tail_eq (m : Muxer) (pts dts : F64) (d : Bytes) (k : Bool) :
    write_video_with_dts_tail m pts dts d k =
      m.answer none (m.w.videoErr pts.ticks dts.ticks d k) m.vCount (m.pushVideo pts dts d k (some dts)) := by
  simp only [write_video_with_dts_tail, Writer.writeVideo_eq]
  cases m.w.videoErr pts.ticks dts.ticks d k with
  | some e => exact congrArg (Prod.mk m) (C04_gen_convert_error e _)
  | none => cases hf : m.firstVideoPts <;> simp [Muxer.answer, Muxer.pushVideo, hf]

theorem write_audio_tail_eq (m : Muxer) (pts : F64) (d : Bytes) :
    write_audio_tail m pts d = m.answer none (m.w.audioErr pts.ticks d) m.aCount (m.pushAudio pts d) := by
  simp only [write_audio_tail, Writer.writeAudio_eq]
  cases m.w.audioErr pts.ticks d with
  | some e => exact congrArg (Prod.mk m) (C04_gen_convert_error e _)
  | none => rfl

/-- `write_video`: when the translated guards name no error, the model's call is the translated tail -/
theorem C04_gen_write_video_tail (m : Muxer) (pts : F64) (d : Bytes) (k : Bool) (h : write_video m pts d = none) :
    m.writeVideo pts d k = write_video_tail m pts d k := by
  rw [write_video_eq] at h
  rw [Muxer.writeVideo_answer, h, write_video_tail_eq]; rfl

/-- `write_video_with_dts`: when the translated guards name no error, the model's call is the translated tail -/
theorem C04_gen_write_video_dts_tail (m : Muxer) (pts dts : F64) (d : Bytes) (k : Bool)
    (h : write_video_with_dts m pts dts d = none) : m.writeVideoDts pts dts d k = write_video_with_dts_tail m pts dts d k := by
  rw [write_video_with_dts_eq, Option.map_eq_none_iff] at h
  rw [Muxer.writeVideoDts_answer, h, write_video_with_dts_tail_eq]

/-- `write_audio`: when the translated guards name no error, the model's call is the translated tail -/
theorem C04_gen_write_audio_tail (m : Muxer) (pts : F64) (d : Bytes) (h : write_audio m pts d = none) :
    m.writeAudio pts d = write_audio_tail m pts d := by
  rw [write_audio_eq, Option.map_eq_none_iff] at h
  rw [Muxer.writeAudio_answer, h, write_audio_tail_eq]

end Muxide.Props.C04Generated
