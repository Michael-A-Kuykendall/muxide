import Muxide.Lemmas.Layout
import Muxide.Props.C01
/-
  C08 — With fast start enabled the movie metadata precedes the media data and with it disabled
  it follows; in both layouts every chunk offset is an absolute file position that is correct for
  that layout. Apart from chunk offsets and top-level box order, the two files produced from the
  same call sequence describe identical tracks, samples, timing and configuration.
  Helper lemmas live in Muxide/Lemmas/Layout.lean, Offsets.lean.
-/
namespace Muxide.Props.C08
open Muxide Muxide.Spec

/-- The serialised length of the moov does not depend on the *values* of the chunk offsets,
    only on how many there are — for every sample list, track mix, configuration and metadata.
    (This is what makes the two-pass placeholder construction of the fast-start layout exact.) -/
theorem size_moov_indep (w h : Nat) (vs aus : List Sample) (vo vo' ao ao' : List Nat) (spc spc' : Nat)
    (fb fb' : Option Nat) (a : AudioTrack) (vc : VideoConfig) (md : Option Metadata)
    (hv : vo.length = vo'.length) (ha : ao.length = ao'.length) :
    (bMoov w h (Tables.ofSamples vs vo spc fb) (some (a, Tables.ofSamples aus ao spc' fb')) vc md).ser.length =
    (bMoov w h (Tables.ofSamples vs vo' spc fb) (some (a, Tables.ofSamples aus ao' spc' fb')) vc md).ser.length :=
  bMoov_ser_length w h (Tables.ofSamples vs vo' spc fb) (some (a, Tables.ofSamples aus ao' spc' fb')) vc md
    vo ao hv (by intro x hx; cases hx; exact ha)

/-- the same without an audio track -/
theorem size_moov_indep_video (w h : Nat) (vs : List Sample) (vo vo' : List Nat) (spc : Nat)
    (fb : Option Nat) (vc : VideoConfig) (md : Option Metadata) (hv : vo.length = vo'.length) :
    (bMoov w h (Tables.ofSamples vs vo spc fb) none vc md).ser.length =
    (bMoov w h (Tables.ofSamples vs vo' spc fb) none vc md).ser.length :=
  bMoov_ser_length w h (Tables.ofSamples vs vo' spc fb) none vc md vo [] hv (by intro x hx; cases hx)

/-- the sample tables built from the same samples with different chunk offsets differ in the
    chunk offsets only: durations, sizes, sync samples, composition offsets, samples-per-chunk
    are the same -/
theorem ofSamples_offsets_only (s : List Sample) (o o' : List Nat) (spc : Nat) (fb : Option Nat) :
    Tables.ofSamples s o' spc fb = { Tables.ofSamples s o spc fb with chunkOffsets := o' } := rfl

/-! ### what the two layouts write, as functions of the writer state

`moovOf`, `offsetsAt`, `mediaChunks`, `payloadLen` and `placeholderOffsets` are defined in
Muxide/Lemmas/Finalize.lean, where the two layouts are brought into normal form in these terms. -/

/-- `moovOf` uses its offsets argument for the chunk offsets and nothing else: the length of the
    moov is the same for any two offset vectors of the same lengths -/
theorem moovOf_length (w : Writer) (width height : Nat) (md : Option Metadata) (vc : VideoConfig)
    (o o' : List Nat × List Nat) (h1 : o.1.length = o'.1.length) (h2 : o.2.length = o'.2.length) :
    (moovOf w width height md vc o).ser.length = (moovOf w width height md vc o').ser.length :=
  moovOf_ser_length w width height md vc o o' h1 h2

theorem offsetsAt_length (w : Writer) (s s' : Nat) :
    (offsetsAt w s).1.length = (offsetsAt w s').1.length ∧ (offsetsAt w s).2.length = (offsetsAt w s').2.length :=
  ⟨(offsetsAt_counts w s).1.trans (offsetsAt_counts w s').1.symm,
    (offsetsAt_counts w s).2.trans (offsetsAt_counts w s').2.symm⟩

/-- Standard layout (fast start disabled): ftyp, media data, then the movie metadata; the
    chunk offsets are those for media data starting at `ftypLen + 8`, i.e. right after the ftyp
    box and the 8-byte mdat header. (With no audio track and no video frame no mdat is written.) -/
theorem C08_standard_layout (w : Writer) (width height : Nat) (md : Option Metadata) (vc : VideoConfig)
    (hok : (finalizeStandard w width height md vc).res = .ok) :
    (finalizeStandard w width height md vc).chunks =
      [bFtyp.ser] ++
      (if w.audio = none ∧ w.vsRev = [] then [] else mdatHeader (payloadLen w) ++ mediaChunks w) ++
      [(moovOf w width height md vc (offsetsAt w (ftypLen + 8))).ser] :=
  (finalizeStandard_ok hok).chunks

theorem placeholderOffsets_length (w : Writer) (s : Nat) :
    (placeholderOffsets w).1.length = (offsetsAt w s).1.length ∧
    (placeholderOffsets w).2.length = (offsetsAt w s).2.length :=
  ⟨(placeholderOffsets_counts w).1.trans (offsetsAt_counts w s).1.symm,
    (placeholderOffsets_counts w).2.trans (offsetsAt_counts w s).2.symm⟩

/-- what `finalizeFastStart` literally does: offsets for media data starting after ftyp, a moov of
    the *placeholder's* length, and the mdat header -/
theorem faststart_raw (w : Writer) (width height : Nat) (md : Option Metadata) (vc : VideoConfig)
    (hok : (finalizeFastStart w width height md vc).res = .ok) :
    (finalizeFastStart w width height md vc).chunks =
      [bFtyp.ser, (moovOf w width height md vc (offsetsAt w
          (ftypLen + (moovOf w width height md vc (placeholderOffsets w)).ser.length + 8))).ser] ++
      mdatHeader (((w.vsRev.reverse).map (·.data.length)).sum + ((w.asRev.reverse).map (·.data.length)).sum) ++
      mediaChunks w :=
  (finalizeFastStart_ok hok).chunks

/-- `fastStart` is measured on the placeholder offsets, and the moov's length does not depend on the offset values: it is
    also the position behind the final moov -/
theorem fastStart_eq (w : Writer) (width height : Nat) (md : Option Metadata) (vc : VideoConfig) :
    fastStart w width height md vc =
      ftypLen + (moovOf w width height md vc (offsetsAt w (fastStart w width height md vc))).ser.length + 8 := by
  have hl := placeholderOffsets_length w (fastStart w width height md vc)
  rw [← moovOf_length w width height md vc _ _ hl.1 hl.2, fastStart]

/-- Fast-start layout: ftyp, the movie metadata, then the media data; the chunk offsets are
    those for media data starting at `ftypLen + |moov| + 8` where `moov` is the *final* moov that
    is written (the one containing these very offsets) — not merely the placeholder.
    `hinv` is the writer-state invariant that a writer without audio track holds no audio samples
    (`writeAudio` rejects them); it is needed only because the mdat size field counts them. -/
theorem C08_faststart_layout (w : Writer) (width height : Nat) (md : Option Metadata) (vc : VideoConfig)
    (hinv : w.audio = none → w.asRev = [])
    (hok : (finalizeFastStart w width height md vc).res = .ok) :
    ∃ start : Nat,
      start = ftypLen + (moovOf w width height md vc (offsetsAt w start)).ser.length + 8 ∧
      (finalizeFastStart w width height md vc).chunks =
        [bFtyp.ser, (moovOf w width height md vc (offsetsAt w start)).ser] ++
        mdatHeader (payloadLen w) ++ mediaChunks w := by
  refine ⟨_, fastStart_eq w width height md vc, ?_⟩
  rw [(finalizeFastStart_ok hok).chunks, queuedLen_eq w hinv]

/-- Both layouts, same writer state, both successful: the two files consist of the same ftyp,
    the same media-data box (byte for byte: same header, same samples in the same order), and a
    moov built by the same function of the writer state from chunk-offset vectors of the same
    lengths — so by `ofSamples_offsets_only` the sample tables of the two files differ in the
    chunk offsets only; the top-level order is ftyp·mdat·moov resp. ftyp·moov·mdat.
    The single exception is made explicit: a writer without audio track and without any video
    frame writes no mdat box at all in the standard layout, but an empty one with fast start. -/
theorem C08_same_tables (w : Writer) (width height : Nat) (md : Option Metadata) (vc : VideoConfig)
    (hinv : w.audio = none → w.asRev = [])
    (hs : (finalizeStandard w width height md vc).res = .ok)
    (hf : (finalizeFastStart w width height md vc).res = .ok) :
    ∃ (o o' : List Nat × List Nat) (mdat : List Bytes),
      o.1.length = o'.1.length ∧ o.2.length = o'.2.length ∧
      (finalizeStandard w width height md vc).chunks =
        [bFtyp.ser] ++ (if w.audio = none ∧ w.vsRev = [] then [] else mdat) ++
        [(moovOf w width height md vc o).ser] ∧
      (finalizeFastStart w width height md vc).chunks =
        [bFtyp.ser, (moovOf w width height md vc o').ser] ++ mdat ∧
      (moovOf w width height md vc o).ser.length = (moovOf w width height md vc o').ser.length := by
  obtain ⟨start, _, hc'⟩ := C08_faststart_layout w width height md vc hinv hf
  have hc := C08_standard_layout w width height md vc hs
  have hl := offsetsAt_length w (ftypLen + 8) start
  refine ⟨offsetsAt w (ftypLen + 8), offsetsAt w start, mdatHeader (payloadLen w) ++ mediaChunks w,
    hl.1, hl.2, hc, ?_, moovOf_length w width height md vc _ _ hl.1 hl.2⟩
  rw [hc']; simp

/-! ### the chunk offsets are correct absolute file positions, in both layouts -/

/-- what the reader obtains from the sample tables written by `moovOf w … o` when it walks the
    chunks and slices `file`: with audio, `stsc` is one run of one sample per chunk for either
    track; without, one run with all samples in the single chunk -/
def ReadsBack (w : Writer) (file : Bytes) (o : List Nat × List Nat) : Prop :=
  let vs := w.vsRev.reverse
  let aus := w.asRev.reverse
  match w.audio with
  | some _ =>
    (walkChunks [(1, 1, 1)] o.1 1 (vs.map (·.data.length))).map (fun r => slice file r.1 r.2) = vs.map (·.data) ∧
    (walkChunks [(1, 1, 1)] o.2 1 (aus.map (·.data.length))).map (fun r => slice file r.1 r.2) = aus.map (·.data)
  | none =>
    (walkChunks [(1, vs.length, 1)] o.1 1 (vs.map (·.data.length))).map (fun r => slice file r.1 r.2) = vs.map (·.data)

/-- generic: a file in which `mediaChunks w` starts at position `pre.length`, with the offsets
    computed for that position, reads back every frame of every track in submission order -/
theorem readsBack_at (w : Writer) (pre post : Bytes)
    (hv : w.vsRev.reverse.Pairwise (fun a b => a.dts < b.dts))
    (ha : w.asRev.reverse.Pairwise (fun a b => a.dts ≤ b.dts)) :
    ReadsBack w (pre ++ (mediaChunks w).flatten ++ post) (offsetsAt w pre.length) := by
  unfold ReadsBack mediaChunks offsetsAt
  cases w.audio with
  | some tr => exact C01.C01_av_samples _ _ pre post hv ha
  | none =>
    by_cases hne : w.vsRev.reverse ≠ []
    · simp only [if_pos hne]
      exact C01.C01_video_only_samples _ pre post
    · have : w.vsRev.reverse = [] := by simpa using hne
      simp [this, walkChunks]

/-- Standard layout: the chunk offsets written into the moov are correct absolute positions
    in the file that is written. -/
theorem C08_standard_offsets_correct (w : Writer) (width height : Nat) (md : Option Metadata) (vc : VideoConfig)
    (hv : w.vsRev.reverse.Pairwise (fun a b => a.dts < b.dts))
    (ha : w.asRev.reverse.Pairwise (fun a b => a.dts ≤ b.dts))
    (hok : (finalizeStandard w width height md vc).res = .ok) :
    ReadsBack w (finalizeStandard w width height md vc).chunks.flatten (offsetsAt w (ftypLen + 8)) := by
  rw [C08_standard_layout w width height md vc hok]
  by_cases he : w.audio = none ∧ w.vsRev = []
  · unfold ReadsBack offsetsAt
    simp [he.1, he.2, walkChunks]
  · rw [if_neg he]
    have := readsBack_at w (bFtyp.ser ++ (mdatHeader (payloadLen w)).flatten)
      (moovOf w width height md vc (offsetsAt w (ftypLen + 8))).ser hv ha
    rw [List.length_append, bFtyp_ser_length, mdatHeader_flatten_length] at this
    simpa [List.append_assoc] using this

/-- fast-start layout: the offsets counted from `fastStart` read back -/
theorem faststart_readsBack (w : Writer) (width height : Nat) (md : Option Metadata) (vc : VideoConfig)
    (hinv : w.audio = none → w.asRev = [])
    (hv : w.vsRev.reverse.Pairwise (fun a b => a.dts < b.dts))
    (ha : w.asRev.reverse.Pairwise (fun a b => a.dts ≤ b.dts))
    (hok : (finalizeFastStart w width height md vc).res = .ok) :
    ReadsBack w (finalizeFastStart w width height md vc).chunks.flatten
      (offsetsAt w (fastStart w width height md vc)) := by
  rw [(finalizeFastStart_ok hok).chunks, queuedLen_eq w hinv]
  have := readsBack_at w (bFtyp.ser ++ (moovOf w width height md vc (offsetsAt w (fastStart w width height md vc))).ser ++
    (mdatHeader (payloadLen w)).flatten) [] hv ha
  rw [List.length_append, List.length_append, bFtyp_ser_length, mdatHeader_flatten_length,
    ← fastStart_eq w width height md vc] at this
  simpa [List.append_assoc] using this

/-- Fast-start layout: the chunk offsets written into the moov are correct absolute
    positions in the file that is written (they account for the final moov in front). -/
theorem C08_faststart_offsets_correct (w : Writer) (width height : Nat) (md : Option Metadata) (vc : VideoConfig)
    (hinv : w.audio = none → w.asRev = [])
    (hv : w.vsRev.reverse.Pairwise (fun a b => a.dts < b.dts))
    (ha : w.asRev.reverse.Pairwise (fun a b => a.dts ≤ b.dts))
    (hok : (finalizeFastStart w width height md vc).res = .ok) :
    ∃ start : Nat,
      start = ftypLen + (moovOf w width height md vc (offsetsAt w start)).ser.length + 8 ∧
      (finalizeFastStart w width height md vc).chunks =
        [bFtyp.ser, (moovOf w width height md vc (offsetsAt w start)).ser] ++
        mdatHeader (payloadLen w) ++ mediaChunks w ∧
      ReadsBack w (finalizeFastStart w width height md vc).chunks.flatten (offsetsAt w start) :=
  ⟨_, fastStart_eq w width height md vc, by rw [(finalizeFastStart_ok hok).chunks, queuedLen_eq w hinv],
    faststart_readsBack w width height md vc hinv hv ha hok⟩

/-- The position from which the chunk offsets are counted (the first
    pushed offset) is `ftypLen + 8` in the standard layout and `ftypLen + |final moov| + 8` in the
    fast-start layout. -/
theorem C08_offsets (w : Writer) (width height : Nat) (md : Option Metadata) (vc : VideoConfig)
    (hinv : w.audio = none → w.asRev = []) :
    ((finalizeStandard w width height md vc).res = .ok →
      (finalizeStandard w width height md vc).chunks =
        [bFtyp.ser] ++
        (if w.audio = none ∧ w.vsRev = [] then [] else mdatHeader (payloadLen w) ++ mediaChunks w) ++
        [(moovOf w width height md vc (offsetsAt w (ftypLen + 8))).ser]) ∧
    ((finalizeFastStart w width height md vc).res = .ok →
      ∃ start : Nat,
        start = ftypLen + (moovOf w width height md vc (offsetsAt w start)).ser.length + 8 ∧
        (finalizeFastStart w width height md vc).chunks =
          [bFtyp.ser, (moovOf w width height md vc (offsetsAt w start)).ser] ++
          mdatHeader (payloadLen w) ++ mediaChunks w) :=
  ⟨C08_standard_layout w width height md vc, C08_faststart_layout w width height md vc hinv⟩

/-- the first offset that `offsetsAt w start` pushes is `start` itself (whenever there is a sample) -/
theorem offsetsAt_first (w : Writer) (start : Nat) :
    (∀ tr, w.audio = some tr → ∀ e es, schedule w.vsRev.reverse w.asRev.reverse = e :: es →
      (if e.kind = 0 then (offsetsAt w start).1.head? else (offsetsAt w start).2.head?) = some start) ∧
    (w.audio = none → w.vsRev ≠ [] → (offsetsAt w start).1 = [start]) := by
  constructor
  · intro tr ha e es hs
    simp only [offsetsAt, ha, hs, assignOffsets]
    by_cases hk : e.kind = 0 <;> simp [hk]
  · intro ha hne
    simp [offsetsAt, ha, hne]

/-! ### for every writer state the API can reach, without side conditions -/

/-- Whatever calls were made before, if `finalize` succeeds then the file it writes is laid out
    as the fast-start flag says, and walking the sample tables of its moov with the independent
    reader returns exactly the accepted frames' payloads, per track, in submission order. -/
theorem C08_finalize_reads_back (w : Writer) (hr : w.Reachable) (width height : Nat) (md : Option Metadata)
    (fast : Bool) (hok : (w.finalize width height md fast).2.res = .ok) :
    ∃ (start : Nat) (vc : VideoConfig),
      ReadsBack w (w.finalize width height md fast).2.chunks.flatten (offsetsAt w start) ∧
      (fast = false →
        start = ftypLen + 8 ∧
        (w.finalize width height md fast).2.chunks =
          [bFtyp.ser] ++
          (if w.audio = none ∧ w.vsRev = [] then [] else mdatHeader (payloadLen w) ++ mediaChunks w) ++
          [(moovOf w width height md vc (offsetsAt w start)).ser]) ∧
      (fast = true →
        start = ftypLen + (moovOf w width height md vc (offsetsAt w start)).ser.length + 8 ∧
        (w.finalize width height md fast).2.chunks =
          [bFtyp.ser, (moovOf w width height md vc (offsetsAt w start)).ser] ++
          mdatHeader (payloadLen w) ++ mediaChunks w) := by
  obtain ⟨hv, ha, _, hinv⟩ := hr.inv.ordered
  have e := (finalize_ok hok).out
  rw [e] at hok ⊢
  cases fast with
  | false =>
    rw [layoutOut_false] at hok ⊢
    exact ⟨ftypLen + 8, _, C08_standard_offsets_correct w width height md _ hv ha hok,
      fun _ => ⟨rfl, C08_standard_layout w width height md _ hok⟩, fun h => by simp at h⟩
  | true =>
    rw [layoutOut_true] at hok ⊢
    obtain ⟨start, hstart, hc, hrb⟩ := C08_faststart_offsets_correct w width height md _ hinv hv ha hok
    exact ⟨start, _, hrb, fun h => by simp at h, fun _ => ⟨hstart, hc⟩⟩

/-! ### non-vacuity: concrete writer states for which both layouts succeed -/
namespace Example
def s0 : Sample := { pts := 0, dts := 0, data := [1, 2], key := true, dur := some 3000 }
def s1 : Sample := { pts := 3000, dts := 3000, data := [9, 9, 9], key := false, dur := none }
def a0 : Sample := { pts := 0, dts := 0, data := [7, 7, 7, 7], key := false, dur := none }
def tr0 : AudioTrack := { sampleRate := 48000, channels := 2, codec := .opus }
/-- video only, two frames -/
def w1 : Writer := { codec := .vp9, vsRev := [s1, s0], vPrev := some 3000, vLastDelta := some 3000 }
/-- two video frames and one audio frame -/
def w2 : Writer := { codec := .vp9, vsRev := [s1, s0], vPrev := some 3000, vLastDelta := some 3000,
                     audio := some tr0, asRev := [a0], aPrev := some 0 }

theorem sched_w2 : schedule [s0, s1] [a0] = [⟨0, 0, 0⟩, ⟨0, 1, 0⟩, ⟨3000, 0, 1⟩] := by
  apply schedule_unique <;> decide

set_option maxRecDepth 100000 in
/-- the hypotheses of `C08_same_tables` / `C08_*_offsets_correct` hold for `w1` -/
example : (w1.audio = none → w1.asRev = []) ∧
    w1.vsRev.reverse.Pairwise (fun a b => a.dts < b.dts) ∧
    w1.asRev.reverse.Pairwise (fun a b => a.dts ≤ b.dts) ∧
    (finalizeStandard w1 640 480 none (.avc defaultAvc)).res = .ok ∧
    (finalizeFastStart w1 640 480 none (.avc defaultAvc)).res = .ok :=
  ⟨fun _ => rfl, by decide, by decide,
    finalizeStandard_ok_of_fits (by decide +kernel) (by decide +kernel),
    finalizeFastStart_ok_of_fits (fun _ => rfl) (by decide +kernel) (by decide +kernel)⟩

set_option maxRecDepth 100000 in
/-- … and for `w2` -/
example : (w2.audio = none → w2.asRev = []) ∧
    w2.vsRev.reverse.Pairwise (fun a b => a.dts < b.dts) ∧
    w2.asRev.reverse.Pairwise (fun a b => a.dts ≤ b.dts) ∧
    (finalizeStandard w2 640 480 none (.avc defaultAvc)).res = .ok ∧
    (finalizeFastStart w2 640 480 none (.avc defaultAvc)).res = .ok :=
  ⟨nofun, by decide, by decide,
    finalizeStandard_ok_of_fits (by decide +kernel) (by decide +kernel),
    finalizeFastStart_ok_of_fits nofun (by decide +kernel) (by decide +kernel)⟩
end Example

end Muxide.Props.C08
