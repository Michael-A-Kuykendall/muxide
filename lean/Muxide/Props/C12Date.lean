import Muxide.Lemmas.Date
/-
  C12 (creation-date formatting) — the year loop of `days_to_ymd` terminates promptly: after the
  whole 400-year cycles have been skipped, the loop advances the year fewer than 400 times for EVERY
  input, and the constant fuel 401 of the model is never the reason the loop stops.
  The iteration counter `yearLoopSteps` and the helper lemmas live in
  Muxide/Lemmas/Date.lean.
-/
namespace Muxide.Props.C12Date
open Muxide Muxide.Spec

/-! ### the iteration counter -/

theorem yearLoopSteps_zero (y r : Nat) : yearLoopSteps 0 y r = 0 := rfl

theorem yearLoopSteps_succ (f y r : Nat) :
    yearLoopSteps (f + 1) y r =
      if r < yearLen y then 0 else yearLoopSteps f (y + 1) (r - yearLen y) + 1 := rfl

/-- the counter is the number of years the loop advanced -/
theorem C12_steps_are_years : ∀ f y r : Nat, (yearLoop f y r).1 = y + yearLoopSteps f y r :=
  yearLoop_year

/-! ### the bound -/

/-- The bound does not come from the fuel: with ANY fuel and any start year from 1970 on, fewer
    than 146 097 remaining days give fewer than 400 iterations: the years stepped over fit in `r`
    (`yearLoop_sum`), 400 years do not. -/
theorem C12_year_loop_bound_any_fuel : ∀ f y r : Nat, 1970 ≤ y → r < 146097 →
    yearLoopSteps f y r < 400 := by
  intro f y r hy hr
  have h1 := yearLoop_sum f y r hy
  rw [yearLoop_year] at h1
  refine Nat.lt_of_not_le fun c => ?_
  have h2 := yearSum_mono (y := y + 400 * 1) (z := y + yearLoopSteps f y r) (by omega) (by omega)
  rw [yearSum_add_cycles y 1 hy] at h2
  omega

/-- The year loop as called by `daysToYmd` runs its body at most 400 times, for every input. -/
theorem C12_year_loop_bound : ∀ days : Nat,
    yearLoopSteps 401 (1970 + 400 * (days / 146097)) (days % 146097) ≤ 400 := by
  intro days
  exact Nat.le_of_lt (C12_year_loop_bound_any_fuel 401 _ _ (by omega) (Nat.mod_lt _ (by omega)))

/-- … in fact at most 399 times (the remainder is less than one full cycle). -/
theorem C12_year_loop_bound_strict : ∀ days : Nat,
    yearLoopSteps 401 (1970 + 400 * (days / 146097)) (days % 146097) < 400 := by
  intro days
  exact C12_year_loop_bound_any_fuel 401 _ _ (by omega) (Nat.mod_lt _ (by omega))

/-- 399 iterations do occur: the last day of a 400-year cycle (2369-12-31). -/
theorem C12_year_loop_399_attained :
    yearLoopSteps 401 (1970 + 400 * (146096 / 146097)) (146096 % 146097) = 399 := by decide +kernel

/-! ### the fuel is never exhausted -/

/-- The loop stops because the remainder fits in the year reached — not because the fuel ran
    out: the returned remainder is a day-of-year of the returned year. -/
theorem C12_year_loop_exit : ∀ days : Nat,
    (yearLoop 401 (1970 + 400 * (days / 146097)) (days % 146097)).2 <
      yearLen (yearLoop 401 (1970 + 400 * (days / 146097)) (days % 146097)).1 := by
  intro days
  exact yearLoop_exit 401 _ _ (by have := Nat.mod_lt days (by omega : 0 < 146097); omega)

/-- … and any larger fuel gives the same result. -/
theorem C12_year_loop_fuel_irrelevant : ∀ days g : Nat, 401 ≤ g →
    yearLoop g (1970 + 400 * (days / 146097)) (days % 146097) =
      yearLoop 401 (1970 + 400 * (days / 146097)) (days % 146097) := by
  intro days g hg
  obtain ⟨k, rfl⟩ := Nat.exists_eq_add_of_le hg
  exact yearLoop_fuel_irrel 401 k _ _ (by have := C12_year_loop_bound_strict days; omega)

/-! ### the facts behind the cycle skip -/

/-- any 400 consecutive years (from 1970 on) have 146 097 days -/
theorem C12_cycle_days : ∀ y : Nat, 1970 ≤ y →
    daysFromCivil (y + 400) 1 1 = daysFromCivil y 1 1 + 146097 := by
  intro y hy
  rw [daysFromCivil_jan1, daysFromCivil_jan1]
  exact yearSum_add_cycles y 1 hy

/-- the start year of the loop is the first day of cycle `c` -/
theorem C12_cycle_start : ∀ c : Nat, daysFromCivil (1970 + 400 * c) 1 1 = 146097 * c := by
  intro c
  rw [daysFromCivil_jan1, yearSum_add_cycles _ _ (Nat.le_refl _), yearSum_1970, Nat.zero_add]

end Muxide.Props.C12Date
