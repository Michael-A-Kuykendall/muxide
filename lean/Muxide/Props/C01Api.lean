import Muxide.Props.C01History
import Muxide.Props.C05
/-
  C01 (API form) — `C01_history` is about sequences of calls on the `Mp4Writer` (timestamps in ticks).  The
  public API (`Muxer`) sits in front of it: five frame-writing calls taking seconds as `f64`, each with its own
  guards, two of them (`encode_video`, `encode_audio`) with an internal clock and, for video, key-frame
  detection.  This file shows that the API adds nothing to and removes nothing from what is stored: every API
  call either is refused without reaching the writer, or makes exactly one writer call with the submitted
  bytes, the submitted (or detected) key flag and the tick values of the submitted times, and is answered `ok`
  exactly when the writer accepts.  Hence for every sequence of API write calls on a freshly built muxer, the
  samples read back from the finished file are those of the calls answered `ok`.
-/
namespace Muxide.Props.C01Api
open Muxide Muxide.Spec Muxide.Props.C05 Muxide.Props.C01E2E Muxide.Props.C01History

/-- the writer call behind `write_video` (none: refused by the API's own guards) -/
def wvCall (m : Muxer) (pts : F64) (d : Bytes) (k : Bool) : Option WCall :=
  if d = [] then none else
  if ¬ pts.isFinite then none else
  if pts.isNeg then none else
  if ¬ ticksRepresentable pts then none else
  if (match m.lastVideoPts with | some prev => F64.le pts prev | none => false) then none else
  some (.video pts.ticks pts.ticks d k)

/-- the writer call behind `write_video_with_dts` -/
def wvdCall (m : Muxer) (pts dts : F64) (d : Bytes) (k : Bool) : Option WCall :=
  if m.finished then none else
  if d = [] then none else
  if ¬ pts.isFinite then none else
  if pts.isNeg then none else
  if ¬ ticksRepresentable pts then none else
  if ¬ dts.isFinite then none else
  if dts.isNeg then none else
  if ¬ ticksRepresentable dts then none else
  if (match m.lastVideoDts with | some prev => F64.le dts prev | none => false) then none else
  some (.video pts.ticks dts.ticks d k)

/-- the writer call behind `write_audio` -/
def waCall (m : Muxer) (pts : F64) (d : Bytes) : Option WCall :=
  if m.finished then none else
  if m.audioTrack.isNone then none else
  if ¬ pts.isFinite then none else
  if pts.isNeg then none else
  if ¬ ticksRepresentable pts then none else
  if d = [] then none else
  if (match m.lastAudioPts with | some prev => F64.lt pts prev | none => false) then none else
  match m.firstVideoPts with
  | none => none
  | some fv => if F64.lt pts fv then none else some (.audio pts.ticks d)

/-- the writer call a frame-writing API call makes in muxer state `m` -/
def toW (m : Muxer) : Call → Option WCall
  | .wv pts d k => wvCall m pts d k
  | .wvd pts dts d k => wvdCall m pts dts d k
  | .wa pts d => waCall m pts d
  | .ev d _ => wvCall m m.curV d (m.isKeyframe d)
  | .ea d _ => match m.audioTrack with
    | none => none
    | some _ => waCall m m.curA d
  | .fin | .fins => none

/-! ### one call -/

theorem elim_ite {α β} {c : Prop} [Decidable c] (x y : Option α) (a : β) (b : α → β) :
    (if c then x else y).elim a b = if c then x.elim a b else y.elim a b :=
  apply_ite (·.elim a b) c x y

theorem wvCall_eq (m : Muxer) (pts : F64) (d : Bytes) (k : Bool) :
    wvCall m pts d k =
      ((m.wvPre pts d).map (·, some m.vCount)).elim (some (.video pts.ticks pts.ticks d k)) (fun _ => none) := by
  unfold wvCall Muxer.wvPre prevLe
  simp only [apply_ite (Option.map _), Option.map_some, Option.map_none, elim_ite]
  rfl

theorem wvdCall_eq (m : Muxer) (pts dts : F64) (d : Bytes) (k : Bool) :
    wvdCall m pts dts d k =
      (m.wvdPre pts dts d).elim (some (.video pts.ticks dts.ticks d k)) (fun _ => none) := by
  unfold wvdCall Muxer.wvdPre prevLe
  simp only [elim_ite]
  rfl

theorem waCall_eq (m : Muxer) (pts : F64) (d : Bytes) :
    waCall m pts d = (m.waPre pts d).elim (some (.audio pts.ticks d)) (fun _ => none) := by
  unfold waCall Muxer.waPre prevLt
  simp only [elim_ite]
  cases m.firstVideoPts <;> simp only [elim_ite] <;> rfl

/-- a call in answer form against the writer call `wc` behind it (`h`: the writer call in its check-then-push
    form): refused by its own guards it changes nothing, below them the muxer holds the writer that `wc`
    returns and replies `ok` exactly when the writer does -/
theorem answer_w {m : Muxer} {pre : Option (MErr × Option Nat)} {werr : Option WErr} {idx : Nat} {acc : Muxer}
    {wc : WCall} (h : wstep m.w wc = match werr with | some e => (m.w, .err e) | none => (acc.w, .ok)) :
    match pre.elim (some wc) (fun _ => none) with
    | none => (m.answer pre werr idx acc).1 = m ∧ (m.answer pre werr idx acc).2 ≠ .ok
    | some wc => (m.answer pre werr idx acc).1.w = (wstep m.w wc).1 ∧
        ((m.answer pre werr idx acc).2 = .ok ↔ (wstep m.w wc).2 = .ok) := by
  cases pre with
  | some p => exact ⟨rfl, nofun⟩
  | none =>
    show _ = (wstep m.w wc).1 ∧ (_ ↔ (wstep m.w wc).2 = .ok)
    rw [h]
    cases werr with
    | none => exact ⟨rfl, fun _ => rfl, fun _ => rfl⟩
    | some e => exact ⟨rfl, wresReply_ok_iff (r := .err e)⟩

theorem writeVideo_w (m : Muxer) (pts : F64) (d : Bytes) (k : Bool) :
    match wvCall m pts d k with
    | none => (m.writeVideo pts d k).1 = m ∧ (m.writeVideo pts d k).2 ≠ .ok
    | some wc => (m.writeVideo pts d k).1.w = (wstep m.w wc).1 ∧
        ((m.writeVideo pts d k).2 = .ok ↔ (wstep m.w wc).2 = .ok) := by
  rw [wvCall_eq, Muxer.writeVideo_answer]
  exact answer_w (m.w.writeVideo_eq ..)

theorem writeVideoDts_w (m : Muxer) (pts dts : F64) (d : Bytes) (k : Bool) :
    match wvdCall m pts dts d k with
    | none => (m.writeVideoDts pts dts d k).1 = m ∧ (m.writeVideoDts pts dts d k).2 ≠ .ok
    | some wc => (m.writeVideoDts pts dts d k).1.w = (wstep m.w wc).1 ∧
        ((m.writeVideoDts pts dts d k).2 = .ok ↔ (wstep m.w wc).2 = .ok) := by
  rw [wvdCall_eq, Muxer.writeVideoDts_answer]
  exact answer_w (m.w.writeVideo_eq ..)

theorem writeAudio_w (m : Muxer) (pts : F64) (d : Bytes) :
    match waCall m pts d with
    | none => (m.writeAudio pts d).1 = m ∧ (m.writeAudio pts d).2 ≠ .ok
    | some wc => (m.writeAudio pts d).1.w = (wstep m.w wc).1 ∧
        ((m.writeAudio pts d).2 = .ok ↔ (wstep m.w wc).2 = .ok) := by
  rw [waCall_eq, Muxer.writeAudio_answer]
  exact answer_w (m.w.writeAudio_eq ..)

theorem step_w_of {m : Muxer} {r : Muxer × Reply} {o : Option WCall}
    (h : match o with
      | none => r.1 = m ∧ r.2 ≠ .ok
      | some wc => r.1.w = (wstep m.w wc).1 ∧ (r.2 = .ok ↔ (wstep m.w wc).2 = .ok)) :
    match (generalizing := false) o with
    | none => r.1.w = m.w ∧ r.2 ≠ .ok
    | some wc => r.1.w = (wstep m.w wc).1 ∧ (r.2 = .ok ↔ (wstep m.w wc).2 = .ok) := by
  cases o with
  | none => exact ⟨by rw [h.1], h.2⟩
  | some wc => exact h

/-- every frame-writing API call: refused without touching the writer, or exactly one writer call -/
theorem step_w (m : Muxer) (c : Call) (hc : c.isWrite = true) :
    match toW m c with
    | none => (step m c).1.w = m.w ∧ (step m c).2 ≠ .ok
    | some wc => (step m c).1.w = (wstep m.w wc).1 ∧ ((step m c).2 = .ok ↔ (wstep m.w wc).2 = .ok) := by
  cases c with
  | wv pts d k => exact step_w_of (writeVideo_w m pts d k)
  | wvd pts dts d k => exact step_w_of (writeVideoDts_w m pts dts d k)
  | wa pts d => exact step_w_of (writeAudio_w m pts d)
  | ev d ms =>
    -- `encode_video` gives the writer and the reply of `write_video` at `curV`
    obtain ⟨e1, e2⟩ := m.encodeVideo_via d ms
    simp only [toW, step]
    rw [e1, e2]
    exact step_w_of (writeVideo_w m m.curV d (m.isKeyframe d))
  | ea d n =>
    have ha := m.encodeAudio_via d n
    simp only [toW, step]
    cases hat : m.audioTrack <;> rw [hat] at ha
    · rw [ha]; exact ⟨rfl, by simp⟩
    · rw [ha.1, ha.2]
      exact step_w_of (writeAudio_w m m.curA d)
  | fin => cases hc
  | fins => cases hc

/-! ### sequences of calls -/

/-- the writer calls a sequence of API write calls makes, in order -/
def wcalls (m : Muxer) : List Call → List WCall
  | [] => []
  | c :: cs => (toW m c).toList ++ wcalls (step m c).1 cs

/-- the writer-level content of the API calls answered `ok` -/
def apiAccepted (m : Muxer) : List Call → List WCall
  | [] => []
  | c :: cs => (if (step m c).2 = .ok then (toW m c).toList else []) ++ apiAccepted (step m c).1 cs

/-- what is stored of an accepted call -/
def vrec (codec : VCodec) : WCall → Option (Nat × Nat × Bytes × Bool)
  | .video p d data k => some (p, d, convertPayload codec data, k)
  | .audio _ _ => none

def arec (tr : Option AudioTrack) : WCall → Option (Nat × Bytes)
  | .audio p data => some (p, match tr with
      | some t => (C01History.audioPayload t data).getD []
      | none => [])
  | .video _ _ _ _ => none

theorem acceptedVideo_cons (codec : VCodec) (wc : WCall) (wcs : List WCall) (r : WRes) (rs : List WRes) :
    acceptedVideo codec (wc :: wcs) (r :: rs) =
      (if r = .ok then (vrec codec wc).toList else []) ++ acceptedVideo codec wcs rs := by
  cases wc <;> cases r <;> rfl

theorem acceptedAudio_cons (tr : Option AudioTrack) (wc : WCall) (wcs : List WCall) (r : WRes) (rs : List WRes) :
    acceptedAudio tr (wc :: wcs) (r :: rs) =
      (if r = .ok then (arec tr wc).toList else []) ++ acceptedAudio tr wcs rs := by
  cases wc <;> cases r <;> rfl

/-- the calls of a writer history that were answered `ok` -/
def okCalls : List WCall → List WRes → List WCall
  | wc :: wcs, r :: rs => (if r = .ok then [wc] else []) ++ okCalls wcs rs
  | _, _ => []

theorem accepted_eq_okCalls (codec : VCodec) (tr : Option AudioTrack) (wcs : List WCall) (rs : List WRes) :
    acceptedVideo codec wcs rs = (okCalls wcs rs).filterMap (vrec codec) ∧
      acceptedAudio tr wcs rs = (okCalls wcs rs).filterMap (arec tr) := by
  induction wcs generalizing rs with
  | nil => exact ⟨rfl, rfl⟩
  | cons wc wcs ih =>
    cases rs with
    | nil => cases wc <;> exact ⟨rfl, rfl⟩
    | cons r rs =>
      have key : ∀ {β} (f : WCall → Option β),
          (if r = .ok then (f wc).toList else []) = (if r = .ok then [wc] else []).filterMap f := by
        intro β f
        split
        · cases h : f wc <;> simp [h]
        · rfl
      rw [acceptedVideo_cons, acceptedAudio_cons, (ih rs).1, (ih rs).2, okCalls, List.filterMap_append,
        List.filterMap_append, key, key]
      exact ⟨rfl, rfl⟩

/-- the API run and the writer run of the calls it makes agree: same writer, and the calls the writer
    accepted are the calls the API answered `ok` -/
theorem run_w (cs : List Call) (hall : ∀ c ∈ cs, c.isWrite = true) (m : Muxer) :
    (run m cs).1.w = (wrun m.w (wcalls m cs)).1 ∧
    okCalls (wcalls m cs) (wrun m.w (wcalls m cs)).2 = apiAccepted m cs := by
  induction cs generalizing m with
  | nil => exact ⟨rfl, rfl⟩
  | cons c cs ih =>
    obtain ⟨i1, i2⟩ := ih (fun x hx => hall x (List.mem_cons_of_mem _ hx)) (step m c).1
    have hs := step_w m c (hall c List.mem_cons_self)
    show (run (step m c).1 cs).1.w = _ ∧ _
    simp only [wcalls, apiAccepted]
    cases ht : toW m c <;> rw [ht] at hs <;> obtain ⟨h1, h2⟩ := hs
    · -- refused by the API: no writer call, same writer
      rw [h1] at i1 i2
      rw [if_neg h2]
      exact ⟨i1, i2⟩
    · -- one writer call, answered alike
      rw [h1] at i1 i2
      simp only [Option.toList, List.singleton_append, wrun_cons, okCalls, ← i2]
      exact ⟨i1, by simp only [h2]⟩

/-- `finish_in_place_with_stats` answering with statistics means: the writer's `finalize` ran, returned ok,
    and its chunks are what was handed to the sink -/
theorem finishStats_stats (m : Muxer) (st : Stats) (h : (m.finishStats deliverAll).2.2 = .stats st) :
    (m.finishStats deliverAll).2.1 = (m.w.finalize m.width m.height m.md m.fast).2 ∧
    (m.w.finalize m.width m.height m.md m.fast).2.res = .ok := by
  obtain ⟨-, -, h3, h4, -⟩ := Muxer.finishStats_stats (by rw [← h] : m.finishStats deliverAll = (_, _, .stats st))
  exact ⟨h3, h3 ▸ h4⟩

/-- A session of the public API — build, frame-writing calls, a finish that returns statistics — is a
    history of the writer followed by a successful `finalize`: the writer is the one the history
    `wcalls` leads to from the fresh writer, the file is what `finalize` hands out, and the calls the
    writer accepted are those the API answered `ok`.  The history theorems carry over through this. -/
theorem session (c : Config) (cs : List Call) (hall : ∀ x ∈ cs, x.isWrite = true) (st : Stats)
    (hst : ((run (build c) cs).1.finishStats deliverAll).2.2 = .stats st) :
    let m := (run (build c) cs).1
    let r := wrun { codec := c.codec, audio := (build c).w.audio } (wcalls (build c) cs)
    m.w = r.1 ∧ (m.finishStats deliverAll).2.1 = (r.1.finalize m.width m.height m.md m.fast).2 ∧
    (r.1.finalize m.width m.height m.md m.fast).2.res = .ok ∧
    ∀ tr, acceptedVideo c.codec (wcalls (build c) cs) r.2 = (apiAccepted (build c) cs).filterMap (vrec c.codec) ∧
      acceptedAudio tr (wcalls (build c) cs) r.2 = (apiAccepted (build c) cs).filterMap (arec tr) := by
  intro m r
  obtain ⟨hout, hres⟩ := finishStats_stats m st hst
  obtain ⟨hw, hacc⟩ := run_w cs hall (build c)
  have hw' : m.w = r.1 := hw
  rw [hw'] at hout hres
  refine ⟨hw', hout, hres, fun tr => ?_⟩
  rw [← hacc]
  exact accepted_eq_okCalls c.codec tr _ _

/-- **C01 at the public API.** Build a muxer from any configuration, make any sequence of frame-writing API
    calls (`write_video`, `write_video_with_dts`, `write_audio`, `encode_video`, `encode_audio`, in any order,
    with any arguments), then finish successfully.  The independent reader finds in the delivered bytes, for the
    video track, exactly the re-framed bytes and key flags of the calls answered `ok`, in call order, and for
    the audio track exactly the raw payloads of the audio calls answered `ok`. -/
theorem C01_api_history (c : Config) (cs : List Call) (hall : ∀ x ∈ cs, x.isWrite = true) (st : Stats) :
    let m0 := build c
    let m := (run m0 cs).1
    (m.finishStats deliverAll).2.2 = .stats st →
    MoovFits m.w m.width m.height m.md m.fast →
    let file := (m.finishStats deliverAll).2.1.chunks.flatten
    ∃ mv vt, parseMovie file = some mv ∧ mv.tracks[0]? = some vt ∧
      (vt.samples file).map (fun s => (s.1, s.2.1)) =
        ((apiAccepted m0 cs).filterMap (vrec c.codec)).map (fun p => (p.2.2.1, p.2.2.2)) ∧
      (∀ tr, m0.w.audio = some tr → ∃ at_, mv.tracks[1]? = some at_ ∧
        (at_.samples file).map (·.1) = ((apiAccepted m0 cs).filterMap (arec m0.w.audio)).map (·.2)) := by
  dsimp only
  intro hst hfit
  obtain ⟨hw, hout, hres, hacc⟩ := session c cs hall st hst
  rw [hw] at hfit
  obtain ⟨mv, vt, hmv, -, hvt, hvs, haud⟩ := C01_history c.codec _ (wcalls _ cs) _ _ _ _ hres hfit
  rw [← hout] at hmv hvs haud
  refine ⟨mv, vt, hmv, hvt, by rw [hvs, (hacc none).1], ?_⟩
  intro tr htr
  obtain ⟨at_, hat, hs⟩ := haud tr htr
  exact ⟨at_, hat, by rw [hs, (hacc _).2]⟩

/-! ### the hypotheses are satisfiable: a concrete VP9 history with a refused call in the middle -/
namespace Example
def k : Bytes := [73, 131, 66, 0, 128, 100, 100, 18, 146, 255, 255, 99, 25, 255]
def cfg : Config := { codec := .vp9, width := 64, height := 48, audio := none, md := none, fast := true }
/-- `encode_video` (key frame detected), a `write_audio` without an audio track (refused), `write_video` at 1 s -/
def cs : List Call := [.ev k 33, .wa F64.zero [1], .wv (F64.ofNat 1) [73, 131, 66, 16, 128] false]

set_option maxRecDepth 100000 in
example : (∀ x ∈ cs, x.isWrite = true) ∧
    (∃ st, ((run (build cfg) cs).1.finishStats deliverAll).2.2 = .stats st) ∧
    (let m := (run (build cfg) cs).1; MoovFits m.w m.width m.height m.md m.fast) ∧
    (apiAccepted (build cfg) cs).filterMap (vrec .vp9) =
      [(0, 0, k, true), (90000, 90000, [73, 131, 66, 16, 128], false)] := by
  refine ⟨by decide, Reply.exists_stats (by decide +kernel), ?_, ?_⟩
  · unfold MoovFits; decide +kernel
  · decide +kernel
end Example

end Muxide.Props.C01Api
