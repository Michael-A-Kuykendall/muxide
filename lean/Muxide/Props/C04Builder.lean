import Muxide.Props.C17Builder
/-
  C04 — "at any point in any sequence of builder and muxer calls": the builder half.  `build` succeeds
  exactly when the call sequence configures video (by any of its calls, the last one deciding) and does
  not leave an Opus track with more than 255 channels; the error names which of the two it was.
-/
namespace Muxide
open Spec

/-- C04 for `build`: it succeeds exactly when video was configured and the audio track (if any) is not
    Opus with more than 255 channels -/
theorem C04_build_iff (ops : List BOp) :
    (∃ m, (Builder.run ops).build = .ok m) ↔ buildAccepts ops = true := by
  rw [C17_builder_build]
  unfold buildAccepts buildChecked
  cases effectiveConfig ops with
  | none => simp
  | some c =>
    cases ha : c.audio with
    | none => simp [ha]
    | some a => by_cases h1 : a.codec = .opus <;> by_cases h2 : a.channels > 255 <;> simp [ha, h1, h2]

/-- the error `build` reports names the violated precondition -/
theorem C04_build_err (ops : List BOp) :
    ((Builder.run ops).build = .missingVideoConfig ↔ lastSome videoOf ops = none) := by
  rw [C17_builder_build]
  unfold effectiveConfig
  cases h : lastSome videoOf ops with
  | none => simp
  | some v =>
    simp only [Option.map_some]
    split <;> simp

/-- non-vacuity: both refusals and an acceptance occur -/
example : buildAccepts [.audio ⟨48000, 2, .opus⟩] = false ∧
    buildAccepts [.video .h264 640 480, .audio ⟨48000, 256, .opus⟩] = false ∧
    buildAccepts [.video .h264 640 480, .audio ⟨48000, 256, .opus⟩, .setAudioTrack ⟨48000, 255, .opus⟩] = true := by decide

end Muxide
