import Muxide.Props.C01History
import Muxide.Props.C15
/-
  C15 (end to end) — C15_perm / C15_merge are about the interleave *schedule*; C01 shows that the chunk offsets
  follow the schedule.  This file states the property on the finished file: the chunk-offset tables of the two
  tracks, as the independent reader decodes them from the bytes handed to the sink, can be merged into one list
  (entry, file offset) that
    * lists every sample of both tracks exactly once, video sample i as (dts_i, video, i), audio sample k as
      (pts_k, audio, k), the i-th video / k-th audio offset being the i-th / k-th entry of its track's table,
    * is in timestamp order with video first on equal timestamps (`Before`), and
    * has the samples lying one after the other in the file: each sample ends (offset + size) at or before the
      start of every later one.
  So no sample is stored after a sample with a later timestamp, in both layouts, for every reachable writer.
-/
namespace Muxide.Props.C15E2E
open Muxide Muxide.Spec Muxide.Props.C01E2E Muxide.Props.C08 Muxide.Props.C15 Muxide.Props.C01History

theorem cursors_ge {α} (step : α → Nat) (l : List α) : ∀ s, ∀ c ∈ cursors step l s, s ≤ c :=
  cursors_lower step l

/-- pairing a list with its cursor values: later elements start where earlier ones have ended, and any relation
    that holds pairwise on the list holds on the first components -/
theorem zip_cursors_pairwise {α} (R : α → α → Prop) (step : α → Nat) (l : List α) (hR : l.Pairwise R) : ∀ s,
    (l.zip (cursors step l s)).Pairwise (fun p q => R p.1 q.1 ∧ p.2 + step p.1 ≤ q.2) :=
  cursors_zip_pairwise R step l hR

/-- **C15 on the file.** -/
theorem C15_e2e (w : Writer) (hr : w.Reachable) (tr : AudioTrack) (hau : w.audio = some tr)
    (width height : Nat) (md : Option Metadata) (fast : Bool)
    (hok : (w.finalize width height md fast).2.res = .ok) (hfit : MoovFits w width height md fast) :
    let file := (w.finalize width height md fast).2.chunks.flatten
    let vs := w.vsRev.reverse
    let aus := w.asRev.reverse
    ∀ mv, parseMovie file = some mv → ∀ vt at_, mv.tracks[0]? = some vt → mv.tracks[1]? = some at_ →
      ∃ tagged : List (Ent × Nat),
        tagged.map (·.1) = schedule vs aus ∧
        tagged.Pairwise (fun p q => Before p.1 q.1 ∧ p.2 + entSize vs aus p.1 ≤ q.2) ∧
        (tagged.filter (fun p => p.1.kind = 0)).map (·.1) = entsOf 0 vs ∧
        (tagged.filter (fun p => !decide (p.1.kind = 0))).map (·.1) = entsOf 1 aus ∧
        vt.stco = (tagged.filter (fun p => p.1.kind = 0)).map (·.2) ∧
        at_.stco = (tagged.filter (fun p => !decide (p.1.kind = 0))).map (·.2) := by
  intro file vs aus mv hmv vt at_ hvt hat
  obtain ⟨hv, ha⟩ := C01_e2e_sizes_and_count w hr width height md fast hok hfit mv hmv
  obtain ⟨-, -, hvstco, -, -, -⟩ := hv vt hvt
  obtain ⟨-, -, hastco, -, -, -⟩ := ha tr hau at_ hat
  let start := mediaStart w width height md fast
  let sched := schedule vs aus
  let tagged := sched.zip (cursors (entSize vs aus) sched start)
  have hoff : offsetsAt w start = assignOffsets (entSize vs aus) sched start := by
    unfold offsetsAt; rw [hau]
  have hlen : sched.length = (cursors (entSize vs aus) sched start).length := by simp
  obtain ⟨ov, oa⟩ := C15_track_order_reachable w hr
  refine ⟨tagged, ?_, ?_, ?_, ?_, ?_, ?_⟩
  · exact List.map_fst_zip (by simp)
  · exact cursors_zip_pairwise Before (entSize vs aus) sched (C15_merge vs aus) start
  · rw [filter_zip_map_fst (fun e => decide (e.kind = 0)) sched _ hlen]; exact ov
  · rw [filter_zip_map_fst (fun e => !decide (e.kind = 0)) sched _ hlen]
    exact (schedule_filter_not_video vs aus).trans oa
  · rw [hvstco, hoff, assignOffsets_eq]
  · rw [hastco, hoff, assignOffsets_eq]

/-- the schedule entries of a track are determined by the decode times of its samples -/
def entsOfTimes (kind : Nat) (ts : List Nat) : List Ent :=
  (List.zip (List.range ts.length) ts).map fun (i, t) => ⟨t, kind, i⟩

theorem entsOf_eq_times (kind : Nat) (l : List Sample) : entsOf kind l = entsOfTimes kind (l.map (·.dts)) := by
  unfold entsOf entsOfTimes
  rw [List.length_map]
  apply List.ext_getElem
  · simp
  · intro i h1 h2
    simp

/-- **C15 for every history of write calls.** The merged list of the statement above carries, for the video
    track, the decode times *submitted* with the accepted video calls (in call order) and, for the audio track,
    the times submitted with the accepted audio calls: storage order is the order of the submitted timestamps. -/
theorem C15_history (codec : VCodec) (tr : AudioTrack) (cs : List WCall)
    (width height : Nat) (md : Option Metadata) (fast : Bool) :
    let r := wrun { codec := codec, audio := some tr } cs
    (r.1.finalize width height md fast).2.res = .ok →
    MoovFits r.1 width height md fast →
    let file := (r.1.finalize width height md fast).2.chunks.flatten
    let vtimes := (acceptedVideo codec cs r.2).map (·.2.1)
    let atimes := (acceptedAudio (some tr) cs r.2).map (·.1)
    ∀ mv, parseMovie file = some mv → ∀ vt at_, mv.tracks[0]? = some vt → mv.tracks[1]? = some at_ →
      ∃ tagged : List (Ent × Nat),
        tagged.Pairwise (fun p q => Before p.1 q.1 ∧ p.2 ≤ q.2) ∧
        (tagged.filter (fun p => p.1.kind = 0)).map (·.1) = entsOfTimes 0 vtimes ∧
        (tagged.filter (fun p => !decide (p.1.kind = 0))).map (·.1) = entsOfTimes 1 atimes ∧
        vt.stco = (tagged.filter (fun p => p.1.kind = 0)).map (·.2) ∧
        at_.stco = (tagged.filter (fun p => !decide (p.1.kind = 0))).map (·.2) := by
  intro r hok hfit file vtimes atimes mv hmv vt at_ hvt hat
  obtain ⟨q1, q2, q4, hreach⟩ := wrun_fresh codec (some tr) cs
  obtain ⟨tagged, -, hp, hv, ha, hvs, has⟩ := C15_e2e r.1 hreach tr q4 width height md fast hok hfit mv hmv vt at_ hvt hat
  refine ⟨tagged, hp.imp (fun h => ⟨h.1, by omega⟩), ?_, ?_, hvs, has⟩
  · rw [hv, entsOf_eq_times]
    show _ = entsOfTimes 0 ((acceptedVideo codec cs r.2).map (·.2.1))
    rw [← q1, List.map_map]
    rfl
  · rw [ha, entsOf_eq_times]
    show _ = entsOfTimes 1 ((acceptedAudio (some tr) cs r.2).map (·.1))
    rw [← q2, List.map_map]
    -- audio samples are queued with dts = pts
    exact congrArg _ (List.map_congr_left fun s hs => (hreach.inv.ordered.2.2.1 s hs).symm)

end Muxide.Props.C15E2E
