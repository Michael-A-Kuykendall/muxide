/-
  Muxide.Model.Basic — bytes and fixed-width big-endian integer encodings.

  Every Rust `as uN` / `to_be_bytes` is modelled on `Nat` with the wrap made explicit:
  `u16be n` writes `n % 2^16`, `u32be n` writes `n % 2^32`, … so that truncation is visible
  in the model and C16 can state "the argument was already in range".
-/
namespace Muxide

abbrev Bytes := List UInt8

@[inline] def u8 (n : Nat) : UInt8 := UInt8.ofNat n

def u16be (n : Nat) : Bytes := [u8 (n / 2^8 % 256), u8 (n % 256)]

def u32be (n : Nat) : Bytes :=
  [u8 (n / 2^24 % 256), u8 (n / 2^16 % 256), u8 (n / 2^8 % 256), u8 (n % 256)]

def u64be (n : Nat) : Bytes := u32be (n / 2^32) ++ u32be n

/-- two's-complement 32-bit encoding of an integer (Rust `x as i32` then `to_be_bytes`). -/
def i32be (z : Int) : Bytes := u32be (z % (2^32 : Int)).toNat

def zeros (n : Nat) : Bytes := List.replicate n 0

/-- ASCII bytes of a string literal (used only for four-character codes and fixed names). -/
def ascii (s : String) : Bytes := s.toList.map fun c => u8 c.toNat

def readU16 : Bytes → Option (Nat × Bytes)
  | a :: b :: rest => some (a.toNat * 2^8 + b.toNat, rest)
  | _ => none

def readU32 : Bytes → Option (Nat × Bytes)
  | a :: b :: c :: e :: rest =>
      some (a.toNat * 2^24 + b.toNat * 2^16 + c.toNat * 2^8 + e.toNat, rest)
  | _ => none

def readU64 (d : Bytes) : Option (Nat × Bytes) :=
  match readU32 d with
  | none => none
  | some (hi, r) =>
    match readU32 r with
    | none => none
    | some (lo, r') => some (hi * 2^32 + lo, r')

/-- signed reading of a 32-bit field -/
def toI32 (n : Nat) : Int := if n < 2^31 then (n : Int) else (n : Int) - 2^32

/- Proved by `simp`, not `rfl`: a `rfl` lemma is applied silently by `dsimp`, and `simp` then cannot hand the
   proof of a side condition such as `(u32be n).length ≤ off` back to a conditional rewrite rule. -/
@[simp] theorem u16be_length (n : Nat) : (u16be n).length = 2 := by simp [u16be]
@[simp] theorem u32be_length (n : Nat) : (u32be n).length = 4 := by simp [u32be]
@[simp] theorem u64be_length (n : Nat) : (u64be n).length = 8 := by simp [u64be]
@[simp] theorem i32be_length (z : Int) : (i32be z).length = 4 := by simp [i32be]
@[simp] theorem zeros_length (n : Nat) : (zeros n).length = n := by simp [zeros]

end Muxide
